/-
Lower-casing is idempotent (so "compared in lower case" is the same as "compared case-insensitively").
-/
import Gpa.Model.Text
namespace Gpa.Text

theorem lowerChar_idem_upper : ∀ n, n < 91 → 65 ≤ n → lowerChar (lowerChar (Char.ofNat n)) = lowerChar (Char.ofNat n) := by decide +kernel

theorem lowerChar_idem (c : Char) : lowerChar (lowerChar c) = lowerChar c := by
  by_cases h : 'A' ≤ c ∧ c ≤ 'Z'
  · have := lowerChar_idem_upper c.toNat (Nat.lt_succ_of_le h.2) h.1
    rwa [Char.ofNat_toNat] at this
  · by_cases h2 : c = Char.ofNat 0x212A
    · subst h2; decide +kernel
    · have e : lowerChar c = c := by simp [lowerChar, h, h2]
      rw [e, e]

theorem lower_idem (s : Str) : lower (lower s) = lower s := by
  simp [lower, List.map_map, Function.comp_def, lowerChar_idem]

end Gpa.Text
