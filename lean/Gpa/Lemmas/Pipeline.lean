/-
The request path in two halves. `gate` is what `handle` decides before it looks at headers, body, key or clock: a local
answer, or the caller whose request goes on to `forwardStage`. `upstream` is the request `forwardStage` sends when the
body is within its limit. Theorems about every outcome, or about what is relayed, reason about these two; the lemmas about
single stages serve the statements whose hypotheses select one refusal.
-/
import Gpa.Model.Pipeline
import Gpa.Lemmas.Headers
namespace Gpa.Pipeline
open Gpa.Text Gpa.Url Gpa.Headers Gpa.Canon Gpa.Rbac

variable (mac : Str → List UInt8 → Str)

/-! The model compares texts (`Str`) with `toList` of the generated `String` constants. Evaluating `String.toList` means UTF-8
decoding by well-founded recursion, dear in the kernel; these lemmas move the comparison to the `String`s themselves. -/

theorem _root_.Gpa.Text.toList_ne {a b : String} (h : a ≠ b) : a.toList ≠ b.toList :=
  fun e => h (String.toList_injective e)

theorem endpointOf_toList (s : String) (port : Nat) :
    endpointOf s.toList port =
      if s = Gpa.Facts.wireServerIp ∧ port = Gpa.Facts.wireServerPort then .wireServer
      else if s = Gpa.Facts.gaPluginIp ∧ port = Gpa.Facts.gaPluginPort then .gaPlugin
      else if s = Gpa.Facts.imdsIp ∧ port = Gpa.Facts.imdsPort then .imds
      else if s = Gpa.Facts.proxyAgentIp ∧ port = Gpa.Facts.proxyAgentPort then .proxySelf
      else .other := by
  simp only [endpointOf, String.toList_inj]

theorem shouldSkipSig_iff (method : Str) (u : Uri) :
    shouldSkipSig method u = true ↔
      ((method = "PUT".toList ∧ lower u.toStr = "/vmagentlog".toList) ∨
       (method = "POST".toList ∧ lower u.toStr = "/machine/?comp=telemetrydata".toList)) := by
  unfold shouldSkipSig
  simp only [Bool.or_eq_true, Bool.and_eq_true, decide_eq_true_eq]
  exact Iff.rfl

theorem handle_eq_connStage (env : Env) (conn : Conn) (r : Req)
    (hl : ¬ (r.declared.getD 0) > limitFor r) (ht : containsSub r.uri.path ['.', '.'] = false)
    (hp : r.uri.toStr ≠ provisionUrl) :
    handle mac env conn r = connStage mac env conn r := by
  unfold handle
  rw [if_neg hl, if_neg (by rw [ht]; exact Bool.false_ne_true), if_neg hp]

theorem connStage_attributed (env : Env) (conn : Conn) (r : Req) (ip : Str) (port : Nat) (c : Caller)
    (hd : conn.dest = some (ip, port)) (hc : conn.caller = some c) :
    connStage mac env conn r = authStage mac env ip port c r := by
  unfold connStage; rw [hd, hc]

theorem handle_attributed (env : Env) (conn : Conn) (r : Req) (ip : Str) (port : Nat) (c : Caller)
    (hl : ¬ (r.declared.getD 0) > limitFor r) (ht : containsSub r.uri.path ['.', '.'] = false)
    (hp : r.uri.toStr ≠ provisionUrl) (hd : conn.dest = some (ip, port)) (hc : conn.caller = some c) :
    handle mac env conn r = authStage mac env ip port c r := by
  rw [handle_eq_connStage mac env conn r hl ht hp, connStage_attributed mac env conn r ip port c hd hc]

theorem authStage_err (env : Env) (r : Req) (ip : Str) (port : Nat) (c : Caller)
    (h : rulesFor (endpointOf ip port) env = .err) :
    authStage mac env ip port c r = ⟨.respond 500, 0⟩ := by
  unfold authStage; rw [h]

theorem authStage_forbidden (env : Env) (r : Req) (ip : Str) (port : Nat) (c : Caller) (rules)
    (hr : rulesFor (endpointOf ip port) env = .ok rules)
    (h : authorize (endpointOf ip port) c r.uri rules = .forbidden) :
    authStage mac env ip port c r = ⟨.respond 403, 1⟩ := by
  unfold authStage; rw [hr]; simp [h]

theorem authStage_pass (env : Env) (r : Req) (ip : Str) (port : Nat) (c : Caller) (rules)
    (hr : rulesFor (endpointOf ip port) env = .ok rules)
    (h : authorize (endpointOf ip port) c r.uri rules ≠ .forbidden) :
    authStage mac env ip port c r =
      ⟨forwardStage mac env c r, if authorize (endpointOf ip port) c r.uri rules = .ok then 0 else 1⟩ := by
  unfold authStage; rw [hr]; simp [h]

/-- the verdict on a request before its headers and body are looked at: a local answer, or the caller whose request
goes on to `forwardStage`, with the number of failed-authorization records made on the way -/
def gate (env : Env) (conn : Conn) (r : Req) : Result ⊕ Caller × Nat :=
  if (r.declared.getD 0) > limitFor r then .inl ⟨.respond 413, 0⟩
  else if containsSub r.uri.path ['.', '.'] then .inl ⟨.respond 404, 0⟩
  else if r.uri.toStr = provisionUrl then .inl ⟨.provision, 0⟩
  else match conn.dest with
    | none => .inl ⟨.respond 421, 0⟩
    | some (ip, port) =>
      match conn.caller with
      | none => .inl ⟨.respond 421, 1⟩
      | some caller =>
        match rulesFor (endpointOf ip port) env with
        | .err => .inl ⟨.respond 500, 0⟩
        | .ok rules =>
          match authorize (endpointOf ip port) caller r.uri rules with
          | .forbidden => .inl ⟨.respond 403, 1⟩
          | .ok => .inr (caller, 0)
          | .okWithAudit => .inr (caller, 1)

theorem handle_eq_gate (env : Env) (conn : Conn) (r : Req) :
    handle mac env conn r =
      match gate env conn r with
      | .inl res => res
      | .inr (c, f) => ⟨forwardStage mac env c r, f⟩ := by
  fun_cases gate env conn r <;> simp [handle, connStage, authStage, *]

/-- the gate reads the request through its declared length, method and target only -/
theorem gate_body (env : Env) (conn : Conn) (r : Req) (b : List UInt8) :
    gate env conn { r with body := b } = gate env conn r := rfl

theorem gate_local {env : Env} {conn : Conn} {r : Req} {res : Result} (h : gate env conn r = .inl res) :
    res.failedAuth ≤ 1 ∧ (res.outcome = .provision ∨ ∃ st, res.outcome = .respond st) := by
  revert h
  fun_cases gate env conn r <;> intro h <;> cases h <;> simp

theorem gate_pass {env : Env} {conn : Conn} {r : Req} {c : Caller} {f : Nat} (h : gate env conn r = .inr (c, f)) :
    f ≤ 1 ∧ conn.caller = some c ∧
    ∃ ip port rules,
      conn.dest = some (ip, port) ∧ rulesFor (endpointOf ip port) env = .ok rules ∧
      authorize (endpointOf ip port) c r.uri rules ≠ .forbidden ∧
      containsSub r.uri.path ['.', '.'] = false ∧ ¬ (r.declared.getD 0) > limitFor r ∧ r.uri.toStr ≠ provisionUrl := by
  revert h
  fun_cases gate env conn r <;> intro h <;> cases h
  -- the two arms that pass (authorizer Ok, Ok with audit); `‹_›` picks each fact from the arm's hypotheses
  all_goals
    exact ⟨by omega, ‹_›, _, _, _, ‹_›, ‹_›, by simp [*], by simpa using ‹¬ containsSub _ _ = true›, ‹_›, ‹_›⟩

/-- the header map the proxy builds before signing -/
def ownedHeaders (env : Env) (caller : Caller) (r : Req) : Headers :=
  insert dateHeader env.now (insert claimsHeader (claimsValue caller.elevated) (ofWire r.headers))

/-- what signing makes of the proxy-owned headers: the headers sent, and `(key id, signed string)` when a signature was added -/
def signing (env : Env) (caller : Caller) (r : Req) : Headers × Option (Str × List UInt8) :=
  let hm := ownedHeaders env caller r
  if shouldSkipSig r.method r.uri then (hm, none)
  else match env.key with
    | none => (signedHeaders r hm, none)
    | some (guid, key) =>
      let si := sigInput r.method r.body (signedHeaders r hm) r.uri
      if isHexKey key then
        (insert authHeader (authScheme ++ [' '] ++ guid ++ [' '] ++ mac key si) (signedHeaders r hm), some (guid, si))
      else (signedHeaders r hm, none)

/-- the request `forwardStage` sends when the body is within its limit -/
def upstream (env : Env) (caller : Caller) (r : Req) : UpReq :=
  { method := r.method, uri := r.uri, headers := (signing mac env caller r).1, body := r.body,
    signed := (signing mac env caller r).2 }

theorem forwardStage_eq (env : Env) (caller : Caller) (r : Req) :
    forwardStage mac env caller r =
      if r.body.length > limitFor r then .respond 400 else .forward (upstream mac env caller r) := by
  unfold forwardStage upstream signing signStage mkForward ownedHeaders
  dsimp only
  split; · rfl
  split; · rfl
  cases env.key with
  | none => rfl
  | some gk => dsimp only; split <;> rfl

theorem handle_forward (env : Env) (conn : Conn) (r : Req) (u : UpReq)
    (h : (handle mac env conn r).outcome = .forward u) :
    ∃ caller f, gate env conn r = .inr (caller, f) ∧ r.body.length ≤ limitFor r ∧ u = upstream mac env caller r := by
  rw [handle_eq_gate] at h
  cases hg : gate env conn r with
  | inl res =>
    rw [hg] at h
    rcases (gate_local hg).2 with e | ⟨st, e⟩ <;> rw [e] at h <;> cases h
  | inr p =>
    rw [hg] at h
    dsimp only at h
    rw [forwardStage_eq] at h
    split at h
    · cases h
    · cases h; exact ⟨p.1, p.2, rfl, Nat.le_of_not_gt ‹_›, rfl⟩

/-- the headers sent come from the proxy-owned ones by dropping `transfer-encoding` and inserting the authorization header -/
theorem upstream_headers_ind (env : Env) (caller : Caller) (r : Req) (P : Headers → Prop)
    (h0 : P (ownedHeaders env caller r)) (hte : ∀ hs, P hs → P (remove teHeader hs))
    (hauth : ∀ v hs, P hs → P (insert authHeader v hs)) : P (upstream mac env caller r).headers := by
  have hs : P (signedHeaders r (ownedHeaders env caller r)) := by
    unfold signedHeaders; split
    · exact hte _ h0
    · exact h0
  unfold upstream
  fun_cases signing mac env caller r
  case case1 => exact h0  -- exempt
  case case3 => exact hauth _ _ hs  -- signed
  all_goals exact hs  -- no key, or a key that is not hex

theorem upstream_signed (env : Env) (caller : Caller) (r : Req) (guid : Str) (si : List UInt8)
    (h : (upstream mac env caller r).signed = some (guid, si)) :
    ∃ key, env.key = some (guid, key) ∧
      si = sigInput r.method r.body (signedHeaders r (ownedHeaders env caller r)) r.uri ∧
      (upstream mac env caller r).headers =
        insert authHeader (authScheme ++ [' '] ++ guid ++ [' '] ++ mac key si) (signedHeaders r (ownedHeaders env caller r)) := by
  unfold upstream signing at h ⊢
  dsimp only at h ⊢
  split at h
  · cases h
  · cases hk : env.key with
    | none => rw [hk] at h; cases h
    | some gk =>
      rw [hk] at h
      dsimp only at h ⊢
      split at h
      · cases h; exact ⟨gk.2, rfl, rfl, by rw [if_neg ‹_›, if_pos ‹_›]⟩
      · cases h

theorem signing_exempt (env : Env) (caller : Caller) (r : Req) (h : shouldSkipSig r.method r.uri = true) :
    signing mac env caller r = (ownedHeaders env caller r, none) := by
  unfold signing; rw [if_pos h]

end Gpa.Pipeline
