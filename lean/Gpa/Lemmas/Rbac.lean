/- lemmas about rule flattening (`buildAssignments`) and the normal forms of `compute`, `isAllowed` and the
specification over the four sections of the document -/
import Gpa.Lemmas.Map
namespace Gpa.Rbac
open Gpa.Text Gpa.Url

/-- the identity names assigned to the privilege named `pn` so far (none when the map has no entry) -/
def assigned (acc : Map (List Str)) (pn : Str) : List Str := (Map.get? acc pn).getD []

/-- a fold each of whose steps only adds: what holds of the result held at the start or was added by a step -/
theorem foldl_iff {σ α : Type} (f : σ → α → σ) (M : σ → Prop) (P : α → Prop)
    (step : ∀ s a, M (f s a) ↔ M s ∨ P a) (l : List α) (s : σ) :
    M (l.foldl f s) ↔ M s ∨ ∃ a ∈ l, P a := by
  induction l generalizing s with
  | nil => simp
  | cons a l ih => simp [ih, step, or_assoc]

theorem mem_addFold (idents : Map Identity) (names cur : List Str) (n : Str) :
    n ∈ names.foldl (fun s n => if idents.contains n ∧ ¬ s.contains n then s ++ [n] else s) cur ↔
      n ∈ cur ∨ (n ∈ names ∧ idents.contains n = true) := by
  rw [foldl_iff _ (n ∈ ·) (fun a => idents.contains a = true ∧ a = n)]
  · simp
  · intro s a
    split
    · next h => simp [h.1, eq_comm]
    · next h =>
      -- a name not added is undefined or already there
      rw [iff_self_or]
      rintro ⟨hc, rfl⟩
      simpa [hc] using h

theorem mem_assigned_add (idents : Map Identity) (acc : Map (List Str)) (pn pn' : Str) (names : List Str) (n : Str) :
    n ∈ assigned (addAssignments idents acc pn names) pn' ↔
      n ∈ assigned acc pn' ∨ ((n ∈ names ∧ idents.contains n = true) ∧ pn = pn') := by
  simp only [assigned, addAssignments, Map.get?_insert]
  split
  · next h => subst h; simp only [Option.getD_some, mem_addFold, and_true]
  · next h => simp only [h, and_false, or_false]

theorem mem_assigned_role (privDict : Map Privilege) (idents : Map Identity) (ra : Assignment)
    (privs : List Str) (acc : Map (List Str)) (pn n : Str) :
    n ∈ assigned (privs.foldl (fun acc pn =>
        if privDict.contains pn then addAssignments idents acc pn ra.identities else acc) acc) pn ↔
      n ∈ assigned acc pn ∨
        (pn ∈ privs ∧ privDict.contains pn = true ∧ n ∈ ra.identities ∧ idents.contains n = true) := by
  rw [foldl_iff _ (n ∈ assigned · pn)
    (fun p => (privDict.contains p = true ∧ n ∈ ra.identities ∧ idents.contains n = true) ∧ p = pn)]
  · simp
  · intro acc p
    split
    · next h => simp [mem_assigned_add, h]
    · next h => simp [h]

/-- **rule flattening**: identity `n` ends up assigned to privilege `pn` exactly when some role
assignment names a *defined* role that lists `pn`, `pn` is a *defined* privilege, the assignment
lists `n`, and `n` is a *defined* identity (dangling names are skipped). No distinctness needed. -/
theorem mem_assigned_build (roleDict : Map Role) (privDict : Map Privilege) (idents : Map Identity)
    (ras : List Assignment) (pn n : Str) :
    n ∈ assigned (buildAssignments roleDict privDict idents ras) pn ↔
        ∃ ra ∈ ras, ∃ role, roleDict.get? ra.role = some role ∧ pn ∈ role.privileges ∧
          privDict.contains pn = true ∧ n ∈ ra.identities ∧ idents.contains n = true := by
  -- the outer fold of `buildAssignments` (unfolded by unification); a step is the inner fold of `mem_assigned_role`
  refine (foldl_iff _ (n ∈ assigned · pn) _ (fun acc ra => ?_) ras []).trans (or_iff_right (by simp [assigned]))
  cases roleDict.get? ra.role <;> simp [mem_assigned_role]

/-- `compute` in terms of the four sections (missing section = all empty) -/
theorem compute_eq (it : Item) :
    compute it =
      { defaultAllowed := lower it.defaultAccess = "allow".toList, mode := parseMode it.mode,
        privileges := Map.ofList ((sections it).1.map fun p => (p.name, p)),
        assignments := buildAssignments (Map.ofList ((sections it).2.1.map fun r => (r.name, r)))
          (Map.ofList ((sections it).1.map fun p => (p.name, p)))
          (Map.ofList ((sections it).2.2.1.map fun i => (i.name, i))) (sections it).2.2.2,
        identities := Map.ofList ((sections it).2.2.1.map fun i => (i.name, i)) } := by
  unfold compute sections
  split
  · rfl
  · simp only [*]; rfl

theorem compute_mode (it : Item) : (compute it).mode = parseMode it.mode := by rw [compute_eq]

theorem compute_defaultAllowed (it : Item) :
    (compute it).defaultAllowed = decide (lower it.defaultAccess = "allow".toList) := by rw [compute_eq]

theorem distinctNames_iff (it : Item) : distinctNames it = true ↔
    ((sections it).1.map (·.name)).Nodup ∧ ((sections it).2.1.map (·.name)).Nodup ∧
      ((sections it).2.2.1.map (·.name)).Nodup := by
  simp [distinctNames, and_assoc]

theorem ofList_keyed {α : Type} (key : α → Str) (l : List α) (h : (l.map key).Nodup) :
    Map.ofList (l.map fun a => (key a, a)) = l.map fun a => (key a, a) :=
  Map.ofList_nodup _ (by simpa [Function.comp_def] using h)

theorem compute_privileges (it : Item) (hd : distinctNames it = true) :
    (compute it).privileges = (sections it).1.map fun p => (p.name, p) := by
  rw [compute_eq, ofList_keyed _ _ ((distinctNames_iff it).mp hd).1]

theorem not_isEmpty_filter {α : Type} (l : List α) (p : α → Bool) : (!(l.filter p).isEmpty) = l.any p := by
  rw [Bool.eq_iff_iff, Bool.not_eq_true', List.isEmpty_eq_false_iff_exists_mem, List.any_eq_true]
  simp only [List.mem_filter]

/-- `isAllowed` with the filtered list spelt out: the same three questions as `specAllowed` -/
theorem isAllowed_eq (c : Computed) (u : Uri) (cl : Claims) : isAllowed c u cl =
    if c.mode = .disabled then true
    else if c.privileges.any (fun kv => privMatch kv.2 u && granted c kv.2.name cl) then true
    else if c.privileges.any (fun kv => privMatch kv.2 u) then false
    else c.defaultAllowed := by
  simp only [isAllowed, List.any_filter, not_isEmpty_filter]

theorem specAllowed_eq (it : Item) (u : Uri) (cl : Claims) : specAllowed it u cl =
    if parseMode it.mode = .disabled then true
    else if (sections it).1.any (fun p => privMatch p u && specGranted it p cl) then true
    else if (sections it).1.any (fun p => privMatch p u) then false
    else lower it.defaultAccess = "allow".toList := rfl

theorem granted_iff (c : Computed) (pn : Str) (cl : Claims) :
    granted c pn cl = true ↔
      ∃ n ∈ assigned c.assignments pn, ∃ i, c.identities.get? n = some i ∧ identMatch i cl = true := by
  simp only [granted, assigned]
  cases Map.get? c.assignments pn with
  | none => simp
  | some names =>
    simp only [List.any_eq_true, Option.getD_some]
    refine exists_congr fun n => and_congr_right fun _ => ?_
    cases Map.get? c.identities n <;> simp

theorem contains_keyed {α : Type} (key : α → Str) (l : List α) (h : (l.map key).Nodup) (k : Str) :
    Map.contains (l.map fun a => (key a, a)) k = true ↔ ∃ x ∈ l, key x = k := by
  simp only [Map.contains, Option.isSome_iff_exists, Map.get?_keyed key l h]

theorem specGranted_iff (it : Item) (p : Privilege) (cl : Claims) :
    specGranted it p cl = true ↔
      ∃ a ∈ (sections it).2.2.2, ∃ r ∈ (sections it).2.1, r.name = a.role ∧ p.name ∈ r.privileges ∧
        ∃ n ∈ a.identities, ∃ i ∈ (sections it).2.2.1, i.name = n ∧ identMatch i cl = true := by
  simp only [specGranted, List.any_eq_true, Bool.and_eq_true, decide_eq_true_eq, List.contains_iff_mem, and_assoc]

theorem granted_eq_spec (it : Item) (hd : distinctNames it = true) (p : Privilege)
    (hp : p ∈ (sections it).1) (cl : Claims) :
    granted (compute it) p.name cl = specGranted it p cl := by
  obtain ⟨hP, hR, hI⟩ := (distinctNames_iff it).mp hd
  rw [Bool.eq_iff_iff, granted_iff, specGranted_iff, compute_eq, ofList_keyed _ _ hP, ofList_keyed _ _ hR,
    ofList_keyed _ _ hI]
  simp only [mem_assigned_build, Map.get?_keyed _ _ hR, Map.get?_keyed _ _ hI,
    contains_keyed _ _ hP, contains_keyed _ _ hI]
  constructor
  · rintro ⟨n, ⟨ra, hra, role, ⟨hrole, hrn⟩, hpn, _, hn, _⟩, i, ⟨hi, hin⟩, hm⟩
    exact ⟨ra, hra, role, hrole, hrn, hpn, n, hn, i, hi, hin, hm⟩
  · rintro ⟨ra, hra, role, hrole, hrn, hpn, n, hn, i, hi, hin, hm⟩
    exact ⟨n, ⟨ra, hra, role, ⟨hrole, hrn⟩, hpn, ⟨p, hp, rfl⟩, hn, ⟨i, hi, hin⟩⟩, i, ⟨hi, hin⟩, hm⟩

end Gpa.Rbac
