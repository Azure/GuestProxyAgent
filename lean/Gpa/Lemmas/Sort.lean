/- order lemmas for `strLt` and the structural insertion sort -/
import Gpa.Model.Text
namespace Gpa.Text

/-- `strLt` decides core's lexicographic `<` on `List Char`; its order laws are the ones of `List.lt` -/
theorem strLt_iff_lt (a b : Str) : strLt a b = true ↔ a < b := by
  induction a generalizing b with
  | nil => cases b <;> simp [strLt]
  | cons x xs ih =>
    cases b with
    | nil => simp [strLt]
    | cons y ys =>
      rw [List.cons_lt_cons_iff, ← ih, ← Char.toNat_inj, Char.lt_def, UInt32.lt_iff_toNat_lt, Char.toNat_val,
        Char.toNat_val, strLt]
      split
      · simp [*]
      · split <;> simp [*] <;> omega

theorem strLt_eq_false_iff (a b : Str) : strLt a b = false ↔ b ≤ a := by
  rw [← Bool.not_eq_true, strLt_iff_lt]; exact List.not_lt

theorem strLt_irrefl (a : Str) : strLt a a = false := (strLt_eq_false_iff a a).mpr (List.le_refl a)

theorem strLt_asymm (a b : Str) (h : strLt a b = true) : strLt b a = false :=
  (strLt_eq_false_iff b a).mpr (List.le_of_lt ((strLt_iff_lt a b).mp h))

/-- negative transitivity: `a ≥ b` and `b ≥ c` give `a ≥ c` -/
theorem strLt_negtrans (a b c : Str) (h1 : strLt a b = false) (h2 : strLt b c = false) : strLt a c = false :=
  (strLt_eq_false_iff a c).mpr (List.le_trans ((strLt_eq_false_iff b c).mp h2) ((strLt_eq_false_iff a b).mp h1))

/-- `strLt` is total: two texts neither of which is smaller are equal -/
theorem strLt_total (a b : Str) (h1 : strLt a b = false) (h2 : strLt b a = false) : a = b :=
  List.le_antisymm ((strLt_eq_false_iff b a).mp h2) ((strLt_eq_false_iff a b).mp h1)

/-- a list is sorted when no later element is strictly smaller than an earlier one -/
def Sorted {α} (lt : α → α → Bool) : List α → Prop
  | [] => True
  | x :: xs => (∀ z ∈ xs, lt z x = false) ∧ Sorted lt xs

theorem sorted_iff_pairwise {α} (lt : α → α → Bool) (l : List α) :
    Sorted lt l ↔ l.Pairwise fun a b => lt b a = false := by
  induction l with
  | nil => simp [Sorted]
  | cons x xs ih => rw [Sorted, List.pairwise_cons, ih]

theorem sorted_filter {α} (lt : α → α → Bool) (p : α → Bool) (l : List α) (h : Sorted lt l) : Sorted lt (l.filter p) :=
  (sorted_iff_pairwise lt _).mpr (((sorted_iff_pairwise lt l).mp h).filter p)

/-- a strict weak order: asymmetric and negatively transitive -/
structure WeakOrder {α} (lt : α → α → Bool) : Prop where
  asymm : ∀ a b, lt a b = true → lt b a = false
  negtrans : ∀ a b c, lt a b = false → lt b c = false → lt a c = false

/-- the order used for header names and parameter keys -/
theorem keyOrder_weak {β} : WeakOrder (fun (a b : Str × β) => strLt a.1 b.1) :=
  ⟨fun a b h => strLt_asymm a.1 b.1 h, fun a b c h1 h2 => strLt_negtrans a.1 b.1 c.1 h1 h2⟩

theorem perm_insertBy {α} (lt : α → α → Bool) (x : α) (l : List α) : (insertBy lt x l).Perm (x :: l) := by
  induction l with
  | nil => exact .refl _
  | cons y ys ih =>
    rw [insertBy]
    split
    · exact (ih.cons y).trans (.swap x y ys)
    · exact .refl _

theorem perm_sortBy {α} (lt : α → α → Bool) (l : List α) : (sortBy lt l).Perm l := by
  induction l with
  | nil => exact .refl _
  | cons x xs ih => exact (perm_insertBy lt x _).trans (ih.cons x)

theorem mem_insertBy {α} {lt : α → α → Bool} {x : α} {l : List α} {z : α} : z ∈ insertBy lt x l ↔ z = x ∨ z ∈ l :=
  (perm_insertBy lt x l).mem_iff.trans List.mem_cons

theorem mem_sortBy {α} {lt : α → α → Bool} {l : List α} {z : α} : z ∈ sortBy lt l ↔ z ∈ l :=
  (perm_sortBy lt l).mem_iff

theorem sorted_insertBy {α} (lt : α → α → Bool) (wo : WeakOrder lt) (x : α) (l : List α) (h : Sorted lt l) :
    Sorted lt (insertBy lt x l) := by
  induction l with
  | nil => exact ⟨nofun, trivial⟩
  | cons y ys ih =>
    rw [insertBy]
    split
    next hlt =>
      refine ⟨fun z hz => ?_, ih h.2⟩
      rcases mem_insertBy.mp hz with rfl | hz
      · exact wo.asymm y z hlt
      · exact h.1 z hz
    next hlt =>
      refine ⟨fun z hz => ?_, h⟩
      rcases List.mem_cons.mp hz with rfl | hz
      · exact Bool.eq_false_iff.mpr hlt
      · exact wo.negtrans z y x (h.1 z hz) (Bool.eq_false_iff.mpr hlt)

theorem sorted_sortBy {α} (lt : α → α → Bool) (wo : WeakOrder lt) (l : List α) : Sorted lt (sortBy lt l) := by
  induction l with
  | nil => trivial
  | cons x xs ih => exact sorted_insertBy lt wo x _ ih

theorem insertBy_of_all_ge {α} (lt : α → α → Bool) (x : α) (l : List α) (h : ∀ z ∈ l, lt z x = false) :
    insertBy lt x l = x :: l := by
  cases l with
  | nil => rfl
  | cons y ys => simp [insertBy, h y List.mem_cons_self]

theorem filter_insertBy {α} (lt : α → α → Bool) (wo : WeakOrder lt) (p : α → Bool) (x : α) (l : List α)
    (hs : Sorted lt l) :
    (insertBy lt x l).filter p = if p x then insertBy lt x (l.filter p) else l.filter p := by
  induction l with
  | nil => by_cases h : p x <;> simp [insertBy, h]
  | cons y ys ih =>
    by_cases hlt : lt y x = true
    · simp only [insertBy, hlt, ↓reduceIte, List.filter_cons, ih hs.2]
      by_cases hy : p y = true <;> by_cases hx : p x = true <;> simp [hy, hx, insertBy, hlt]
    · -- `x` goes in front of `y`, hence of all of the sorted `y :: ys`, filtered or not
      have hyx : lt y x = false := Bool.eq_false_iff.mpr hlt
      have hall : ∀ z ∈ y :: ys, lt z x = false := fun z hz => by
        rcases List.mem_cons.mp hz with rfl | hz
        · exact hyx
        · exact wo.negtrans z y x (hs.1 z hz) hyx
      rw [insertBy_of_all_ge lt x _ hall, insertBy_of_all_ge lt x _ fun z hz => hall z (List.mem_filter.mp hz).1,
        List.filter_cons]

theorem filter_sortBy {α} (lt : α → α → Bool) (wo : WeakOrder lt) (p : α → Bool) (l : List α) :
    (sortBy lt l).filter p = sortBy lt (l.filter p) := by
  induction l with
  | nil => rfl
  | cons x xs ih =>
    rw [sortBy, filter_insertBy lt wo p x _ (sorted_sortBy lt wo xs), ih, List.filter_cons]
    split <;> rfl

theorem sortBy_eq_of_perm {α} (lt : α → α → Bool) (wo : WeakOrder lt) (l1 l2 : List α) (hp : l1.Perm l2)
    (tot : ∀ a ∈ l1, ∀ b ∈ l1, lt a b = false → lt b a = false → a = b) : sortBy lt l1 = sortBy lt l2 :=
  List.Perm.eq_of_pairwise (le := fun a b => lt b a = false)
    (fun a b ha hb h1 h2 => tot a (mem_sortBy.mp ha) b (hp.mem_iff.mpr (mem_sortBy.mp hb)) h2 h1)
    ((sorted_iff_pairwise lt _).mp (sorted_sortBy lt wo l1)) ((sorted_iff_pairwise lt _).mp (sorted_sortBy lt wo l2))
    (((perm_sortBy lt l1).trans hp).trans (perm_sortBy lt l2).symm)

theorem nodup_map_inj {α β} (f : α → β) (l : List α) (h : (l.map f).Nodup) :
    ∀ a ∈ l, ∀ b ∈ l, f a = f b → a = b := by
  have hp : l.Pairwise fun a b => f a ≠ f b := List.pairwise_map.mp h
  exact fun a ha b hb => List.Pairwise.forall_of_forall_of_flip (R := fun a b => f a = f b → a = b)
    (fun _ _ _ => rfl) (hp.imp fun hne e => absurd e hne) (hp.imp fun hne e => absurd e.symm hne) ha hb

theorem sortBy_key_perm {β} {l1 l2 : List (Str × β)} (hp : l1.Perm l2) (hk : (l1.map (·.1)).Nodup) :
    sortBy (fun a b => strLt a.1 b.1) l1 = sortBy (fun a b => strLt a.1 b.1) l2 :=
  sortBy_eq_of_perm _ keyOrder_weak l1 l2 hp fun a ha b hb h1 h2 =>
    nodup_map_inj (·.1) l1 hk a ha b hb (strLt_total _ _ h1 h2)

end Gpa.Text
