/-
Lemmas for the kernel hooks (C06): `lookup` after `update` / `delete`; what each hook leaves alone; bounded maps — an entry
written to an LRU map survives as long as fewer than `cap` other keys are written after it. Core Lean only.
-/
import Gpa.Model.Ebpf
namespace Gpa.Ebpf

variable {κ β : Type}

/-- the entry for `k` is in the map with value `v`, behind at most `j` more recently written entries -/
def Holds (m : List (κ × β)) (k : κ) (v : β) (j : Nat) : Prop :=
  ∃ pre post, m = pre ++ (k, v) :: post ∧ (∀ kv ∈ pre, kv.1 ≠ k) ∧ pre.length ≤ j

theorem Holds.mono {m : List (κ × β)} {k : κ} {v : β} {j j' : Nat} (h : Holds m k v j) (hj : j ≤ j') : Holds m k v j' := by
  obtain ⟨pre, post, e, hpre, hl⟩ := h
  exact ⟨pre, post, e, hpre, Nat.le_trans hl hj⟩

theorem holds_cons_self (m : List (κ × β)) (k : κ) (v : β) : Holds ((k, v) :: m) k v 0 :=
  ⟨[], m, rfl, nofun, Nat.le_refl _⟩

theorem Holds.cons {m : List (κ × β)} {k : κ} {v : β} {j : Nat} (h : Holds m k v j) (k' : κ) (v' : β) (hk : k' ≠ k) :
    Holds ((k', v') :: m) k v (j + 1) := by
  obtain ⟨pre, post, rfl, hpre, hl⟩ := h
  refine ⟨(k', v') :: pre, post, rfl, ?_, Nat.succ_le_succ hl⟩
  intro kv hkv
  cases List.mem_cons.mp hkv with
  | inl e => rw [e]; exact hk
  | inr hin => exact hpre kv hin

theorem Holds.dropLast {m : List (κ × β)} {k : κ} {v : β} {j : Nat} (h : Holds m k v j) (hlen : j + 1 < m.length) :
    Holds m.dropLast k v j := by
  obtain ⟨pre, post, rfl, hpre, hl⟩ := h
  have hpost : post ≠ [] := by
    rintro rfl
    simp only [List.length_append, List.length_cons, List.length_nil] at hlen
    omega
  refine ⟨pre, post.dropLast, ?_, hpre, hl⟩
  rw [List.dropLast_append_of_ne_nil (by simp), List.dropLast_cons_of_ne_nil hpost]

variable [DecidableEq κ]

/-! ### `lookup` in a map that was updated -/

theorem lookup_filter (p : κ → Bool) (m : List (κ × β)) (q : κ) :
    lookup (m.filter fun kv => p kv.1) q = if p q then lookup m q else none := by
  induction m with
  | nil => simp [lookup]
  | cons a m ih =>
    obtain ⟨k', v⟩ := a
    by_cases hq : k' = q
    · subst hq; cases hp : p k' <;> simp [lookup, hp, ih]
    · cases hp : p k' <;> simp [lookup, hp, hq, ih]

theorem lookup_delete (m : List (κ × β)) (k q : κ) : lookup (delete m k) q = if k = q then none else lookup m q := by
  rw [delete, lookup_filter (fun x => x ≠ k)]
  by_cases h : k = q <;> simp [h, eq_comm]

theorem lookup_update (m : List (κ × β)) (k q : κ) (v : β) :
    lookup (update m k v) q = if k = q then some v else lookup m q := by
  show (if k = q then some v else lookup (delete m k) q) = _
  rw [lookup_delete]; split <;> rfl

theorem lookup_append_of_not_mem (pre rest : List (κ × β)) (k : κ) (h : ∀ kv ∈ pre, kv.1 ≠ k) :
    lookup (pre ++ rest) k = lookup rest k := by
  induction pre with
  | nil => rfl
  | cons a pre ih =>
    simp only [List.cons_append, lookup, if_neg (h a List.mem_cons_self)]
    exact ih fun kv hkv => h kv (List.mem_cons_of_mem _ hkv)

/-! ### bounded maps -/

theorem Holds.lookup_eq {m : List (κ × β)} {k : κ} {v : β} {j : Nat} (h : Holds m k v j) : lookup m k = some v := by
  obtain ⟨pre, post, rfl, hpre, _⟩ := h
  rw [lookup_append_of_not_mem pre _ k hpre]
  simp only [lookup, if_true]

theorem Holds.delete_other {m : List (κ × β)} {k : κ} {v : β} {j : Nat} (h : Holds m k v j) (k' : κ) (hk : k' ≠ k) :
    Holds (delete m k') k v j := by
  obtain ⟨pre, post, rfl, hpre, hl⟩ := h
  refine ⟨delete pre k', delete post k', ?_, ?_, Nat.le_trans (List.length_filter_le _ _) hl⟩
  · simp [delete, hk.symm]
  · intro kv hkv; exact hpre kv (List.mem_filter.mp hkv).1

theorem Holds.update_other {m : List (κ × β)} {k : κ} {v : β} {j : Nat} (h : Holds m k v j) (k' : κ) (v' : β) (hk : k' ≠ k) :
    Holds (update m k' v') k v (j + 1) :=
  (h.delete_other k' hk).cons k' v' hk

theorem Holds.updateB_lru_other {m : List (κ × β)} {k : κ} {v : β} {j : Nat} (h : Holds m k v j) (cap : Nat) (k' : κ) (v' : β)
    (hk : k' ≠ k) (hj : j + 1 < cap) : Holds (updateB .lru cap m k' v') k v (j + 1) := by
  unfold updateB
  split
  · exact h.update_other k' v' hk
  split
  · exact h.update_other k' v' hk
  · exact (h.dropLast (by omega)).cons k' v' hk

theorem holds_updateB_lru_self (m : List (κ × β)) (cap : Nat) (k : κ) (v : β) : Holds (updateB .lru cap m k v) k v 0 := by
  unfold updateB
  split
  · exact holds_cons_self _ k v
  · split <;> exact holds_cons_self _ k v

/-- a plain hash map that is full refuses a new key -/
theorem updateB_hash_full (m : List (κ × β)) (cap : Nat) (k : κ) (v : β) (hnew : lookup m k = none) (hfull : cap ≤ m.length) :
    updateB .hash cap m k v = m := by
  simp only [updateB, hnew, Option.isSome_none, Bool.false_eq_true, if_false, if_neg (Nat.not_lt.mpr hfull)]

/-! ### what a hook leaves alone: the policy, the agent's process list, and the pending entries of the other threads -/

@[simp] theorem connect4_frame (s : State) (t : Thread) (ip port proto : Nat) :
    (connect4 s t ip port proto).1.policy = s.policy ∧ (connect4 s t ip port proto).1.skip = s.skip ∧
    (connect4 s t ip port proto).1.audit = s.audit := by
  fun_cases connect4 s t ip port proto <;> exact ⟨rfl, rfl, rfl⟩

@[simp] theorem tcpConnect_frame (s : State) (t : Thread) (family daddr dport lport : Nat) :
    (tcpConnect s t family daddr dport lport).policy = s.policy ∧ (tcpConnect s t family daddr dport lport).skip = s.skip := by
  fun_cases tcpConnect s t family daddr dport lport <;> exact ⟨rfl, rfl⟩

theorem connect4_localMap_other (s : State) (t : Thread) (ip port proto k : Nat) (h : t.pidTgid ≠ k) :
    lookup (connect4 s t ip port proto).1.localMap k = lookup s.localMap k := by
  fun_cases connect4 s t ip port proto <;> simp [lookup_delete, lookup_update, h]

theorem tcpConnect_localMap_other (s : State) (t : Thread) (family daddr dport lport k : Nat) (h : t.pidTgid ≠ k) :
    lookup (tcpConnect s t family daddr dport lport).localMap k = lookup s.localMap k := by
  fun_cases tcpConnect s t family daddr dport lport <;> simp [lookup_delete, h]

@[simp] theorem connect4B_frame (c : Caps) (s : State) (t : Thread) (ip port proto : Nat) :
    (connect4B c s t ip port proto).1.policy = s.policy ∧ (connect4B c s t ip port proto).1.skip = s.skip := by
  fun_cases connect4B c s t ip port proto <;> exact ⟨rfl, rfl⟩

@[simp] theorem tcpConnectB_frame (c : Caps) (s : State) (t : Thread) (family daddr dport lport : Nat) :
    (tcpConnectB c s t family daddr dport lport).policy = s.policy ∧
    (tcpConnectB c s t family daddr dport lport).skip = s.skip := by
  fun_cases tcpConnectB c s t family daddr dport lport <;> exact ⟨rfl, rfl⟩

@[simp] theorem stepB_frame (c : Caps) (s : State) (e : Ev) : (stepB c s e).policy = s.policy ∧ (stepB c s e).skip = s.skip := by
  cases e <;> simp [stepB]

@[simp] theorem runB_frame (c : Caps) (s : State) (evs : List Ev) :
    (runB c s evs).policy = s.policy ∧ (runB c s evs).skip = s.skip := by
  induction evs generalizing s <;> simp_all [runB]

theorem connect4B_holds_other (c : Caps) (hl : c.localKind = .lru) (s : State) (t : Thread) (ip port proto : Nat)
    {K : Nat} {v : LocalEntry} {j : Nat} (h : Holds s.localMap K v j) (hother : t.pidTgid ≠ K) (hj : j + 1 < c.localCap) :
    Holds (connect4B c s t ip port proto).1.localMap K v (j + 1) := by
  fun_cases connect4B c s t ip port proto
  · exact (h.delete_other _ hother).mono (Nat.le_succ j)
  · exact h.mono (Nat.le_succ j)
  · rw [hl]; exact h.updateB_lru_other _ _ _ hother hj

theorem tcpConnectB_holds_other (c : Caps) (s : State) (t : Thread) (family daddr dport lport : Nat)
    {K : Nat} {v : LocalEntry} {j : Nat} (h : Holds s.localMap K v j) (hother : t.pidTgid ≠ K) :
    Holds (tcpConnectB c s t family daddr dport lport).localMap K v j := by
  fun_cases tcpConnectB c s t family daddr dport lport
  case case3 => exact h.delete_other _ hother  -- the thread had an entry pending: recorded, its own entry deleted
  all_goals exact h

end Gpa.Ebpf
