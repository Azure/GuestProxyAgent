/- association-list `Map` lemmas (model of HashMap) -/
import Gpa.Model.Rbac
namespace Gpa.Rbac
open Gpa.Text

variable {β : Type}

@[simp] theorem Map.get?_nil (k : Str) : Map.get? ([] : Map β) k = none := rfl

theorem Map.get?_insert (m : Map β) (k k' : Str) (v : β) :
    Map.get? (m.insert k v) k' = if k = k' then some v else Map.get? m k' := by
  induction m with
  | nil => simp [Map.insert, Map.get?]
  | cons hd tl ih => grind [Map.insert, Map.get?]

theorem Map.insert_fresh (m : Map β) (k : Str) (v : β) (h : k ∉ m.map Prod.fst) :
    m.insert k v = m ++ [(k, v)] := by
  induction m with
  | nil => rfl
  | cons hd tl ih =>
    simp only [List.map_cons, List.mem_cons, not_or] at h
    simp [Map.insert, Ne.symm h.1, ih h.2]

theorem Map.ofList_nodup_aux (acc l : List (Str × β)) (h : ((acc ++ l).map Prod.fst).Nodup) :
    l.foldl (fun m kv => Map.insert m kv.1 kv.2) acc = acc ++ l := by
  induction l generalizing acc with
  | nil => simp
  | cons hd tl ih =>
    rw [List.append_cons] at h ⊢
    rw [List.foldl_cons, Map.insert_fresh, ih _ h]
    simp only [List.map_append, List.nodup_append, List.map_cons, List.map_nil, List.mem_singleton] at h
    exact fun hm => h.1.2.2 _ hm _ rfl rfl

theorem Map.ofList_nodup (l : List (Str × β)) (h : (l.map Prod.fst).Nodup) : Map.ofList l = l :=
  Map.ofList_nodup_aux [] l h

theorem Map.get?_eq_find? (l : Map β) (k : Str) :
    Map.get? l k = (l.find? (fun kv => kv.1 = k)).map Prod.snd := by
  induction l with
  | nil => rfl
  | cons hd tl ih =>
    simp only [Map.get?, List.find?_cons]
    by_cases h : hd.1 = k <;> simp [h, ih]

theorem Map.get?_keyed {α : Type} (key : α → Str) (l : List α) (h : (l.map key).Nodup) (k : Str) (x : α) :
    Map.get? (l.map fun a => (key a, a)) k = some x ↔ x ∈ l ∧ key x = k := by
  induction l with
  | nil => simp
  | cons hd tl ih =>
    simp only [List.map_cons, List.nodup_cons, List.mem_map, not_exists, not_and] at h
    simp only [List.map_cons, Map.get?, List.mem_cons]
    split
    · next hk =>
      rw [Option.some.injEq]
      exact ⟨fun e => e ▸ ⟨.inl rfl, hk⟩,
        fun ⟨hx, e⟩ => hx.elim Eq.symm fun hx => absurd (e.trans hk.symm) (h.1 x hx)⟩
    · next hk =>
      rw [ih h.2]
      exact ⟨fun ⟨hx, e⟩ => ⟨.inr hx, e⟩, fun ⟨hx, e⟩ => ⟨hx.resolve_left fun e' => hk (e' ▸ e), e⟩⟩

end Gpa.Rbac
