/- lemmas about the canonical string -/
import Gpa.Model.Canon
import Gpa.Lemmas.Headers
import Gpa.Lemmas.Sort
namespace Gpa.Canon
open Gpa.Text Gpa.Headers Gpa.Url

theorem lastPerName_cons (a : Str × Str) (t : Headers) :
    lastPerName (a :: t) = if t.any (fun kv => kv.1 = a.1) then lastPerName t else a :: lastPerName t := rfl

theorem lastPerName_filter_ne (n : Str) (l : Headers) :
    (lastPerName l).filter (fun kv => kv.1 ≠ n) = lastPerName (l.filter fun kv => kv.1 ≠ n) := by
  induction l with
  | nil => rfl
  | cons a t ih =>
    by_cases ha : a.1 = n
    · rw [List.filter_cons_of_neg (by simpa using ha), ← ih, lastPerName_cons]
      split
      · rfl
      · rw [List.filter_cons_of_neg (by simpa using ha)]
    · rw [List.filter_cons_of_pos (by simpa using ha), lastPerName_cons, lastPerName_cons, ← ih,
        any_filter_of_imp (key_ne_of_eq (Ne.symm ha))]
      split
      · rfl
      · rw [List.filter_cons_of_pos (by simpa using ha)]

theorem lastPerKey_cons (a : Str × (Str × Str)) (t : List (Str × (Str × Str))) :
    lastPerKey (a :: t) = if t.any (fun kv => kv.1 = a.1) then lastPerKey t else a :: lastPerKey t := rfl

theorem lastPerKey_nodup (l : List (Str × (Str × Str))) (h : (l.map (·.1)).Nodup) : lastPerKey l = l := by
  induction l with
  | nil => rfl
  | cons x xs ih =>
    rw [List.map_cons, List.nodup_cons] at h
    have hany : xs.any (fun kv => kv.1 = x.1) = false :=
      List.any_eq_false.mpr fun kv hkv hk => h.1 (of_decide_eq_true hk ▸ List.mem_map_of_mem hkv)
    rw [lastPerKey_cons, hany, ih h.2]; rfl

theorem nodup_map_fst {α β γ} (f : α → β) (g : α → γ) (l : List α) (h : (l.map f).Nodup) :
    ((l.map fun x => (f x, g x)).map (·.1)).Nodup := by
  rwa [List.map_map]

theorem lastPerKey_map_nodup {α} (f : α → Str) (g : α → Str × Str) (l : List α) (h : (l.map f).Nodup) :
    lastPerKey (l.map fun x => (f x, g x)) = l.map fun x => (f x, g x) :=
  lastPerKey_nodup _ (nodup_map_fst f g l h)

theorem mem_insert (n v : Str) (hs : Headers) (x : Str × Str) (h : x ∈ insert n v hs) : x = (n, v) ∨ x ∈ hs := by
  by_cases hx : x.1 = n
  · have hf : x ∈ (insert n v hs).filter fun kv => kv.1 = n := List.mem_filter.mpr ⟨h, by simpa using hx⟩
    rw [filter_insert_self] at hf
    exact Or.inl (List.mem_singleton.mp hf)
  · have hf : x ∈ remove n (insert n v hs) := List.mem_filter.mpr ⟨h, by simpa using hx⟩
    rw [remove_insert_self] at hf
    exact Or.inr (List.mem_filter.mp hf).1

/-- **the host recomputes the same header part**: inserting the authorization header into a head
does not change its canonical form (the rule skips that header) -/
theorem canonHeaders_insert_auth (hs : Headers) (v : Str) :
    canonHeaders (insert authHeader v hs) = canonHeaders hs := by
  unfold canonHeaders
  simp only
  rw [filter_sortBy _ keyOrder_weak, lastPerName_filter_ne, ← remove, remove_insert_self, remove,
    ← lastPerName_filter_ne, ← filter_sortBy _ keyOrder_weak]

theorem sigInput_insert_auth (method : Str) (body : List UInt8) (hs : Headers) (u : Uri) (v : Str) :
    sigInput method body (insert authHeader v hs) u = sigInput method body hs u := by
  unfold sigInput; rw [canonHeaders_insert_auth]

end Gpa.Canon
