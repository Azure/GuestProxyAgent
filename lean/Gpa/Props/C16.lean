/-
C16  Provisioning status is truthful under any arrival order.
-/
import Gpa.Model.Provision
import Gpa.Model.TagInodes
import Gpa.Generated.Facts
namespace Gpa.Props.C16
open Gpa.Provision

/-- a positive finished tick was stamped by the deadline handler, or by a task that had just been told
by the actor that all three flags were set at instant `obs` -/
def StampOk (allTimes : List Int) (fin : Int) (reason : Option Reason) (obs : Int) : Prop :=
  0 < fin → reason = some .deadline ∨ (reason = some .allObserved ∧ obs ∈ allTimes ∧ obs ≤ fin)

def TaskOk (allTimes : List Int) (t : Task) : Prop :=
  match t.kind with
  | .ready _ => t.r.all = true → t.obs ∈ allTimes
  | .reset => t.r.all = false
  | .timeup => True
  | .query q latched =>
      StampOk allTimes t.ft t.ftReason t.ftObs ∧
      ∀ ans, t.answer = some ans →
        StampOk allTimes ans.fin ans.reason ans.obsTime ∧ ans.finished = reportFinished ans.fin q latched

structure Inv (g : Global) : Prop where
  times : ∀ τ ∈ g.allTimes, τ < g.clock
  stamp : StampOk g.allTimes g.actor.fin g.actor.reason g.actor.obsTime
  tasks : ∀ t ∈ g.tasks, TaskOk g.allTimes t

theorem stampOk_mono {l l' : List Int} (h : l ⊆ l') {f r o} (hs : StampOk l f r o) : StampOk l' f r o :=
  fun hp => (hs hp).imp_right fun ⟨ha, hm, hle⟩ => ⟨ha, h hm, hle⟩

theorem taskOk_mono {l l' : List Int} (h : l ⊆ l') {t : Task} (ht : TaskOk l t) : TaskOk l' t := by
  unfold TaskOk at *
  split at ht
  · exact fun hall => h (ht hall)
  · exact ht
  · trivial
  · exact ⟨stampOk_mono h ht.1, fun ans ha => ⟨stampOk_mono h (ht.2 ans ha).1, (ht.2 ans ha).2⟩⟩

/-- the history after a reply, as `Step.run` writes it -/
theorem mem_ite_cons {α} {b : Bool} {a x : α} {l : List α} :
    x ∈ (if b then a :: l else l) ↔ (b = true ∧ x = a) ∨ x ∈ l := by
  cases b <;> simp

theorem all_andNot_keyLatch (f : Flags) : (f.andNot fKeyLatch).all = false := by
  simp [Flags.andNot, Flags.all, fKeyLatch]

/-- what one message does, given the invariant of the actor and of the task that sends it; `l` is the
history after the message: the instant `now` is in it if the reply shows all flags set -/
theorem act_ok (a : Actor) (now : Int) (t : Task) (l : List Int) (hl : ∀ τ ∈ l, τ ≤ now)
    (hstamp : StampOk l a.fin a.reason a.obsTime) (htok : TaskOk l t) :
    ((act a now t).2.2 = true → now ∈ l) →
    StampOk l (act a now t).1.fin (act a now t).1.reason (act a now t).1.obsTime ∧
    ∀ t', (act a now t).2.1 = some t' → TaskOk l t' := by
  -- the cases of `act` in the order of its arms, an `if` giving two; `simp` leaves of each what the result asks:
  -- nothing about `t'` where no task is returned, no premise where the reply is `false`
  fun_cases act a now t <;>
    simp only [Bool.false_eq_true, false_implies, true_implies, reduceCtorEq, implies_true, and_true,
      Option.some.injEq, forall_eq']
  case case1 f _ hk _ =>  -- ready, pc 0
    simp only [TaskOk, hk]
    exact fun hb => ⟨hstamp, hb⟩
  case case2 f _ hk hall =>  -- ready, pc 1, all flags were set
    simp only [TaskOk, hk] at htok
    exact fun _ => .inr ⟨rfl, htok hall, hl _ (htok hall)⟩
  case case3 | case9 | case12 => exact hstamp  -- the arms that leave the actor alone and return no task
  case case4 _ hk _ =>  -- reset, pc 0
    simp only [TaskOk, hk]
    exact ⟨hstamp, all_andNot_keyLatch _⟩
  case case5 _ hk hall =>  -- reset, pc 1, all flags were set
    simp only [TaskOk, hk] at htok
    rw [htok] at hall; cases hall
  case case6 => exact nofun  -- reset, pc 1
  case case7 _ hk =>  -- timeup, pc 0
    simp only [TaskOk, hk]
    exact ⟨hstamp, trivial⟩
  case case8 => exact fun _ => .inl rfl  -- timeup, pc 1, not all flags were set
  case case10 q latched _ hk =>  -- query, pc 0
    simp only [TaskOk, hk] at htok ⊢
    exact ⟨hstamp, hstamp, htok.2⟩
  case case11 q latched _ hk =>  -- query, pc 1
    simp only [TaskOk, hk] at htok ⊢
    refine ⟨hstamp, htok.1, ?_⟩
    rintro _ ⟨⟩
    exact ⟨htok.1, rfl⟩

theorem mem_tasks_after {ts : List Task} {i : Nat} {o : Option Task} {u : Task}
    (h : u ∈ (match o with | some t' => ts.set i t' | none => ts.eraseIdx i)) : u ∈ ts ∨ o = some u := by
  cases o with
  | none => exact .inl (List.mem_of_mem_eraseIdx h)
  | some t' => exact (List.mem_or_eq_of_mem_set h).imp_right (congrArg some ·.symm)

theorem inv_step {g g' : Global} (hi : Inv g) (hs : Step g g') : Inv g' := by
  obtain ⟨htimes, hstamp, htasks⟩ := hi
  cases hs with
  | spawn k =>
    refine ⟨htimes, hstamp, fun t ht => ?_⟩
    rcases List.mem_append.mp ht with h | h
    · exact htasks t h
    · cases List.mem_singleton.mp h
      cases k <;> simp [TaskOk, StampOk, Flags.none, Flags.all]
  | run i t hget =>
    have hsub : g.allTimes ⊆ if (act g.actor g.clock t).2.2 then g.clock :: g.allTimes else g.allTimes :=
      fun _ h => mem_ite_cons.mpr (.inr h)
    have hle : ∀ τ ∈ if (act g.actor g.clock t).2.2 then g.clock :: g.allTimes else g.allTimes, τ ≤ g.clock :=
      fun τ h => (mem_ite_cons.mp h).elim (fun e => Int.le_of_eq e.2) fun h => Int.le_of_lt (htimes τ h)
    obtain ⟨k1, k2⟩ := act_ok g.actor g.clock t _ hle (stampOk_mono hsub hstamp)
      (taskOk_mono hsub (htasks t (List.mem_of_getElem? hget))) fun hb => mem_ite_cons.mpr (.inl ⟨hb, rfl⟩)
    exact ⟨fun τ h => Int.lt_add_one_of_le (hle τ h), k1,
      fun u hu => (mem_tasks_after hu).elim (fun h => taskOk_mono hsub (htasks u h)) (k2 u)⟩

theorem inv_reach {g : Global} (h : Reach g) : Inv g := by
  induction h with
  | init => refine ⟨?_, fun h => absurd h (by decide), ?_⟩ <;> exact fun _ h => nomatch h
  | step _ hs ih => exact inv_step ih hs

/-- **C16(a)** a query that names instant `q` and finds the channel not latched reports *finished*
only if a finished stamp `fin > 0` with `fin ≥ q` exists, made by the deadline handler, or by a
task to which the actor had just answered (at an instant `obs ≤ fin` recorded in the history) that
redirector, key latch and listener were all ready — under every interleaving of readiness reports,
resets, the deadline handler and concurrent queries, with arbitrary ticks. -/
theorem finished_sound {g : Global} (hr : Reach g) (t : Task) (ht : t ∈ g.tasks) (q : Int)
    (hk : t.kind = .query q false) (ans : Answer) (ha : t.answer = some ans) (hf : ans.finished = true) :
    0 < ans.fin ∧ q ≤ ans.fin ∧
      (ans.reason = some .deadline ∨ (ans.reason = some .allObserved ∧ ans.obsTime ∈ g.allTimes ∧ ans.obsTime ≤ ans.fin)) := by
  have hinv := (inv_reach hr).tasks t ht
  simp only [TaskOk, hk] at hinv
  obtain ⟨hs, hfin⟩ := hinv.2 ans ha
  have hpos : 0 < ans.fin ∧ q ≤ ans.fin := by simpa [reportFinished, hf] using hfin.symm
  exact ⟨hpos.1, hpos.2, hs hpos.1⟩

/-- **C16(b)** the error text names exactly the subsystems whose flag is clear in the state the
query read, and is empty exactly when all three are set -/
theorem error_text_exact (f : Flags) :
    ((notReadyOf f).redirector = !f.redirector) ∧ ((notReadyOf f).keyLatch = !f.keyLatch) ∧
    ((notReadyOf f).listener = !f.listener) ∧ (notReadyOf f = Flags.none ↔ f.all = true) := by
  refine ⟨rfl, rfl, rfl, ?_⟩
  simp [notReadyOf, Flags.none, Flags.all, and_assoc]

/-- **C16(c)** no lost update: the actor applies OR / AND-NOT one message at a time, so after any
sequence of reports and resets the flags are the fold of all of them in arrival order, and a
subsystem's flag is set iff its last report came after its last reset -/
inductive FlagMsg where
  | set (f : Flags) | clear (f : Flags)

def applyMsg (s : Flags) : FlagMsg → Flags
  | .set f => s.or f
  | .clear f => s.andNot f

theorem updates_commute (s f g : Flags) : (s.or f).or g = (s.or g).or f := by
  simp only [Flags.or, Bool.or_right_comm]

theorem no_lost_update_redirector (s : Flags) (ms : List FlagMsg) (f : Flags) :
    (ms.foldl applyMsg (s.or f)).or f = ms.foldl applyMsg (s.or f) ∨ ∃ m ∈ ms, ∃ g, m = .clear g := by
  induction ms generalizing s with
  | nil => left; simp [Flags.or]
  | cons m ms ih =>
    cases m with
    | clear g => exact .inr ⟨_, List.mem_cons_self, g, rfl⟩
    | set g =>
      simp only [List.foldl_cons, applyMsg]
      rw [updates_commute]
      exact (ih (s.or g)).imp_right fun ⟨m, hm, hg⟩ => ⟨m, List.mem_cons_of_mem _ hm, hg⟩

/-- **C16(d)** the tag file is only ever replaced atomically: with one writer at a time (a writer
renames only after its own complete write), an observer of `status.tag` sees nothing or a completely
written message — whatever prefixes of the temp file a crash or a reader may catch -/
def writerOps (msg : List UInt8) : List (List TagOp) :=
  -- all crash points of one writer: any prefix of [write (partial steps…), complete write, rename]
  (List.range (msg.length + 1)).map (fun k => [TagOp.writeTmp msg k]) ++
  [[TagOp.writeTmp msg msg.length, TagOp.rename]]

theorem tag_atomic_single_writer (fs : TagFs) (msg : List UInt8) (ops : List TagOp) (h : ops ∈ writerOps msg) :
    (ops.foldl tagStep fs).tag = fs.tag ∨ (ops.foldl tagStep fs).tag = some msg := by
  simp only [writerOps, List.mem_append, List.mem_map, List.mem_range, List.mem_singleton] at h
  rcases h with ⟨k, _, rfl⟩ | rfl
  · exact .inl rfl
  · exact .inr (by simp [tagStep])

/-- negative witness for the clause left partial: two writers sharing `status.tag.tmp` can publish a
torn file (W1 completes its write, W2 starts rewriting the temp file, W1 renames) -/
theorem two_writers_can_tear :
    ([TagOp.writeTmp [1, 2, 3] 3, TagOp.writeTmp [9, 9, 9, 9] 1, TagOp.rename].foldl tagStep ⟨none, none⟩).tag = some [9] := by
  decide +kernel

/-- **negative witness (F8)** the rule before the fix reported *finished* on a fresh agent (tick 0,
nothing ready, channel not latched) to a query without a positive tick; the fixed rule does not -/
theorem old_rule_unsound : reportFinishedOld 0 0 false = true ∧ reportFinishedOld 0 (-5) false = true := by decide +kernel
theorem new_rule_fresh_agent (q : Int) : reportFinished 0 q false = false := by simp [reportFinished]

/-! ### answers are consistent: while nothing is reset and no deadline passes, *finished* comes with an empty error text -/

/-- executions made of readiness reports and queries only -/
inductive ReachNR : Global → Prop where
  | init : ReachNR Global.init
  | spawnReady {g} (f : Flags) : ReachNR g → ReachNR (spawnTask g (.ready f))
  | spawnQuery {g} (q : Int) (l : Bool) : ReachNR g → ReachNR (spawnTask g (.query q l))
  | run {g} (i : Nat) : ReachNR g → ReachNR (runIdx g i)

theorem all_or (a b : Flags) (h : a.all = true) : (a.or b).all = true := by
  simp_all [Flags.all, Flags.or]

/-- what a task knows is still true of the actor (flags only grow here) -/
def TaskJ (a : Actor) (t : Task) : Prop :=
  match t.kind with
  | .ready _ => t.r.all = true → a.flags.all = true
  | .query _ l =>
      (0 < t.ft → a.flags.all = true) ∧
      ∀ ans, t.answer = some ans → ans.finished = true → l = false → ans.notReady = Flags.none
  | _ => False

structure InvJ (g : Global) : Prop where
  fin : 0 < g.actor.fin → g.actor.flags.all = true
  tasks : ∀ t ∈ g.tasks, TaskJ g.actor t

theorem act_J (a : Actor) (now : Int) (t : Task) (hfin : 0 < a.fin → a.flags.all = true) (ht : TaskJ a t) :
    (a.flags.all = true → (act a now t).1.flags.all = true) ∧
    (0 < (act a now t).1.fin → (act a now t).1.flags.all = true) ∧
    ∀ t', (act a now t).2.1 = some t' → TaskJ (act a now t).1 t' := by
  fun_cases act a now t <;>
    simp only [reduceCtorEq, false_implies, implies_true, and_true, imp_self, true_and, Option.some.injEq, forall_eq']
  case case4 | case5 | case6 | case7 | case8 | case9 => simp only [TaskJ, *] at ht  -- reset, timeup
  case case1 f _ hk _ =>  -- ready, pc 0
    simp only [TaskJ, hk]
    exact ⟨all_or _ _, fun h => all_or _ _ (hfin h), id⟩
  case case2 f _ hk hall =>  -- ready, pc 1, all flags were set
    simp only [TaskJ, hk] at ht
    exact fun _ => ht hall
  case case3 | case12 => exact hfin  -- the arms that leave the actor alone and return no task
  case case10 q l _ hk =>  -- query, pc 0
    simp only [TaskJ, hk] at ht ⊢
    exact ⟨hfin, hfin, ht.2⟩
  case case11 q l _ hk =>  -- query, pc 1
    simp only [TaskJ, hk] at ht ⊢
    refine ⟨hfin, ht.1, ?_⟩
    rintro _ ⟨⟩ hf rfl
    have hpos : 0 < t.ft ∧ q ≤ t.ft := by simpa [reportFinished] using hf
    exact (error_text_exact _).2.2.2.mpr (ht.1 hpos.1)

theorem taskJ_mono {a a' : Actor} (h : a.flags.all = true → a'.flags.all = true) {t : Task} (ht : TaskJ a t) : TaskJ a' t := by
  unfold TaskJ at *
  split at ht
  · exact fun hall => h (ht hall)
  · exact ⟨fun hp => h (ht.1 hp), ht.2⟩
  · exact ht

theorem invJ_spawn {g : Global} (hi : InvJ g) (k : Kind) (hk : TaskJ g.actor { kind := k, pc := 0 }) :
    InvJ (spawnTask g k) :=
  ⟨hi.fin, fun t ht => (List.mem_append.mp ht).elim (hi.tasks t) fun h => List.mem_singleton.mp h ▸ hk⟩

theorem invJ_reach {g : Global} (hr : ReachNR g) : InvJ g := by
  induction hr with
  | init => exact ⟨fun h => absurd h (by decide), fun _ h => nomatch h⟩
  | spawnReady f _ ih => exact invJ_spawn ih _ (by simp [TaskJ, Flags.none, Flags.all])
  | spawnQuery q l _ ih => exact invJ_spawn ih _ (by simp [TaskJ])
  | @run g i _ ih =>
    unfold runIdx
    split
    next t hti =>
      obtain ⟨hmono, hfin, hnew⟩ := act_J g.actor g.clock t ih.fin (ih.tasks t (List.mem_of_getElem? hti))
      exact ⟨hfin, fun u hu => (mem_tasks_after hu).elim (fun h => taskJ_mono hmono (ih.tasks u h)) (hnew u)⟩
    next => exact ih

/-- **C16(e)** as long as nothing is reset and no deadline passes, an answer is consistent whatever the
interleaving of the reports with the query's own two reads: *finished* (for a channel that is not
latched) comes with an empty error text -/
theorem finished_has_empty_text {g : Global} (hr : ReachNR g) (t : Task) (ht : t ∈ g.tasks) (q : Int)
    (hk : t.kind = .query q false) (ans : Answer) (ha : t.answer = some ans) (hf : ans.finished = true) :
    ans.notReady = ⟨false, false, false⟩ := by
  have h := (invJ_reach hr).tasks t ht
  simp only [TaskJ, hk] at h
  exact h.2 ans ha hf trivial

/-- negative witness: a query that read the state BEFORE the finished tick (the two reads swapped) can answer
*finished* with a text that still names the key latch -/
def swappedQuery (flagsAtFirstRead : Flags) (finAtSecondRead : Int) (q : Int) : Bool × Flags :=
  (reportFinished finAtSecondRead q false, notReadyOf flagsAtFirstRead)
theorem swapped_reads_inconsistent :
    swappedQuery ⟨true, false, true⟩ 7 5 = (true, ⟨false, true, false⟩) := by decide +kernel

/-! non-vacuity: three readiness reports, the last one stamps, a query with an earlier tick is told finished -/
def run1 := runIdx
def spawn1 := spawnTask
def demo : Global :=
  let g := spawn1 (spawn1 (spawn1 Global.init (.ready fRedirector)) (.ready fKeyLatch)) (.ready fListener)
  let g := run1 (run1 (run1 g 0) 1) 2      -- the three updates
  let g := run1 (run1 (run1 g 0) 0) 0      -- first two have nothing to do, the third stamps
  let g := spawn1 g (.query 2 false)
  run1 (run1 g 0) 0
theorem runIdx_is_step (g : Global) (i : Nat) (t : Task) (h : g.tasks[i]? = some t) : Step g (runIdx g i) := by
  unfold runIdx
  rw [h]
  exact Step.run g i t h

example : (demo.tasks.map fun t => t.answer.map (·.finished)) = [some true] := by decide +kernel
example : demo.actor.fin = 6 ∧ demo.allTimes = [3] := by decide +kernel

end Gpa.Props.C16

/-!
## "the status tag file on disk is only ever replaced atomically" — overlapping writers, at the level of inodes

Statements about `Gpa.TagInodes`: whole writers may overlap in any way (each collects its message with
awaits; another writer can run in between), their file operations cannot, because the source performs
them in one stretch without an await (fact `tagTmpThenAwait = 0`). What remains partial is unchanged:
two threads inside their stretches at the same time (`two_writers_can_tear` above).
-/
namespace Gpa.Props.C16.Inodes
open Gpa.TagInodes

/-- between two stretches -/
def Boundary (s : St) : Prop := s.tmp = none ∧ Safe s ∧ ∀ p ∈ s.frozen, p.1 < s.files.length

theorem boundary_init : Boundary St.init := by
  simp [Boundary, St.init, Safe]

theorem handleOf_cons_self (w i : Nat) (hs : List (Nat × Nat)) : handleOf ((w, i) :: hs) w = some i := by
  simp [handleOf, List.find?]

theorem overlay_nil (msg : List UInt8) : overlay msg [] = msg := by simp [overlay]

theorem getD_append_lt {α} (l x : List α) (i : Nat) (d : α) (h : i < l.length) : (l ++ x).getD i d = l.getD i d := by
  simp [List.getD, List.getElem?_append_left h]

theorem getD_concat_length {α} (l : List α) (a d : α) : (l ++ [a]).getD l.length d = a := by
  simp

theorem set_length_append {α} (l : List α) (a b : α) : (l ++ [a]).set l.length b = l ++ [b] := by
  induction l with
  | nil => rfl
  | cons h t ih => simp [ih]

theorem length_stretch (w : Nat) (msg : List UInt8) : (stretch w msg).length = 3 := rfl

theorem safe_append {s : St} (h : Boundary s) (x : List (List UInt8)) (tmp : Option Nat) (hs : List (Nat × Nat)) :
    Safe { s with files := s.files ++ x, tmp := tmp, handles := hs } :=
  fun p hp => (getD_append_lt _ _ _ _ (h.2.2 p hp)).trans (h.2.1 p hp)

theorem run_stretch (s : St) (w : Nat) (msg : List UInt8) (h : s.tmp = none) :
    run s (stretch w msg) = { s with files := s.files ++ [msg], tmp := none, tag := some s.files.length,
                                     handles := (w, s.files.length) :: s.handles, frozen := (s.files.length, msg) :: s.frozen } := by
  simp only [run, stretch, List.foldl_cons, List.foldl_nil, step, h, handleOf_cons_self, getD_concat_length, overlay_nil,
    set_length_append]

theorem boundary_after_stretch (s : St) (w : Nat) (msg : List UInt8) (h : Boundary s) : Boundary (run s (stretch w msg)) := by
  rw [run_stretch s w msg h.1]
  exact ⟨rfl, List.forall_mem_cons.mpr ⟨getD_concat_length _ _ _, safe_append h [msg] none []⟩,
    List.forall_mem_cons.mpr ⟨by simp, fun p hp => Nat.lt_of_lt_of_le (h.2.2 p hp) (by simp)⟩⟩

theorem safe_inside_stretch (s : St) (w : Nat) (msg : List UInt8) (h : Boundary s) (k : Nat) :
    Safe (run s ((stretch w msg).take k)) := by
  match k with
  | 0 => exact h.2.1
  | 1 => simpa [run, stretch, step, h.1] using safe_append h [[]] _ _
  | 2 => simpa [run, stretch, step, h.1, handleOf_cons_self, overlay_nil] using safe_append h [msg] _ _
  | k + 3 =>
    rw [List.take_of_length_le (by rw [length_stretch]; omega)]
    exact (boundary_after_stretch s w msg h).2.1

def opsOf (ws : List (Nat × List UInt8)) : List Op := ws.flatMap (fun p => stretch p.1 p.2)

theorem opsOf_cons (a : Nat × List UInt8) (t : List (Nat × List UInt8)) : opsOf (a :: t) = stretch a.1 a.2 ++ opsOf t := rfl

theorem run_append (s : St) (a b : List Op) : run s (a ++ b) = run (run s a) b := List.foldl_append ..

theorem safe_take_opsOf (ws : List (Nat × List UInt8)) (s : St) (h : Boundary s) (k : Nat) :
    Safe (run s ((opsOf ws).take k)) := by
  induction ws generalizing s k with
  | nil => simpa [opsOf, run] using h.2.1
  | cons a t ih =>
    rw [opsOf_cons, List.take_append, run_append]
    rcases Nat.le_total k 3 with hk | hk
    · rw [length_stretch, Nat.sub_eq_zero_of_le hk]
      exact safe_inside_stretch s a.1 a.2 h k
    · rw [List.take_of_length_le hk]
      exact ih _ (boundary_after_stretch s a.1 a.2 h) _

/-- **C16 (tag file, overlapping writers)** whatever number of writers run, in whatever order their
stretches come, and wherever the execution is stopped — also in the middle of a stretch —: every file
that `status.tag` has ever named still holds exactly what it held when it was published. A reader never
finds one file with two contents. -/
theorem published_file_keeps_its_content (ws : List (Nat × List UInt8)) (k : Nat) :
    Safe (run St.init ((opsOf ws).take k)) :=
  safe_take_opsOf ws St.init boundary_init k

/-- and what it names is always one writer's complete message -/
theorem tag_is_a_complete_message (ws : List (Nat × List UInt8)) (s : St) (h : Boundary s) :
    (run s (opsOf ws)).tagContent = s.tagContent ∨ ∃ p ∈ ws, (run s (opsOf ws)).tagContent = some p.2 := by
  induction ws generalizing s with
  | nil => exact .inl rfl
  | cons a t ih =>
    rw [opsOf_cons, run_append]
    rcases ih _ (boundary_after_stretch s a.1 a.2 h) with h1 | ⟨p, hp, h1⟩
    · refine .inr ⟨a, List.mem_cons_self, ?_⟩
      rw [h1, run_stretch s a.1 a.2 h.1]
      exact congrArg some (getD_concat_length _ _ _)
    · exact .inr ⟨p, List.mem_cons_of_mem _ hp, h1⟩

/-! ### the other order: the temp file opened before the awaited collection -/

/-- the deadline handler (writer 1, three lines) opens the temp file and waits for its message; the last
readiness report (writer 2, empty message) opens it too — the same inode —, writes nothing and renames;
then writer 1 writes: the published file changes under its readers -/
theorem open_before_collect_changes_a_published_file :
    ¬ Safe (run St.init [.openTmp 1, .openTmp 2, .write 2 [], .rename, .write 1 [101, 13, 10]]) := by
  decide +kernel

/-- and with two non-empty messages the published text is neither of them -/
theorem open_before_collect_can_tear :
    (run St.init [.openTmp 1, .openTmp 2, .write 1 [101, 13, 10, 107, 13, 10], .rename, .write 2 [107, 13, 10]]).tagContent
      = some [107, 13, 10, 107, 13, 10] := by
  decide +kernel

/-- the same two writers in the order of the source, overlapped as far as the source lets them (writer 2
runs while writer 1 collects), are safe: an instance of the theorem, kept as a non-vacuity check -/
example : Safe (run St.init (opsOf [(2, []), (1, [101, 13, 10])])) ∧
    (run St.init (opsOf [(2, []), (1, [101, 13, 10])])).tagContent = some [101, 13, 10] := by
  decide +kernel

/-- the tie to the source: inside `write_provision_state` nothing is awaited once the temp file's name has
been used, and the name is used and renamed there (generated facts) -/
theorem code_file_operations_are_one_stretch :
    Gpa.Facts.tagTmpThenAwait = 0 ∧ Gpa.Facts.tagTmpThenRename = 1 := ⟨rfl, rfl⟩

end Gpa.Props.C16.Inodes
