/-
C06  Kernel hook redirects exactly the protected connects, records the true caller.
-/
import Gpa.Model.Attach
import Gpa.Lemmas.EbpfLru
import Gpa.Generated.Facts
namespace Gpa.Props.C06
open Gpa.Ebpf

/-- **C06(a)** redirect iff: the connect's address is rewritten to the policy value exactly when the
destination is listed in the policy and the calling process is not the agent; otherwise untouched -/
theorem redirect_iff (s : State) (t : Thread) (ip port proto : Nat) :
    (connect4 s t ip port proto).2 =
      match lookup s.policy (destKey ip port proto) with
      | some pol => if s.skip.contains t.pid then (ip, port) else (pol.getD 0 0, pol.getD 4 0)
      | none => (ip, port) := by
  unfold connect4
  cases lookup s.policy (destKey ip port proto) with
  | none => rfl
  | some pol => simp only; split <;> rfl

/-- connects to any other address, and all connects by the agent itself, go where they were going, and leave the policy, the
agent's process list, every record and every other thread's pending entry as they were (a connect to an unprotected address drops
what an earlier, failed connect of the same thread may have left pending: `unprotected_clears_own_entry`) -/
theorem untouched_otherwise (s : State) (t : Thread) (ip port proto : Nat)
    (h : lookup s.policy (destKey ip port proto) = none ∨ s.skip.contains t.pid = true) :
    (connect4 s t ip port proto).2 = (ip, port) ∧
    (connect4 s t ip port proto).1.policy = s.policy ∧ (connect4 s t ip port proto).1.skip = s.skip ∧
    (connect4 s t ip port proto).1.audit = s.audit ∧
    ∀ k, k ≠ t.pidTgid → lookup (connect4 s t ip port proto).1.localMap k = lookup s.localMap k := by
  obtain ⟨hp, hs, ha⟩ := connect4_frame s t ip port proto
  refine ⟨?_, hp, hs, ha, fun k hk => connect4_localMap_other s t ip port proto k hk.symm⟩
  rw [redirect_iff]
  rcases h with h | h <;> rw [h]
  split <;> rfl

/-- the agent's own connects change nothing at all when their destination is protected -/
theorem agent_connect_untouched (s : State) (t : Thread) (ip port proto : Nat) (pol : Dest)
    (hp : lookup s.policy (destKey ip port proto) = some pol) (h : s.skip.contains t.pid = true) :
    connect4 s t ip port proto = (s, ip, port) := by
  unfold connect4; rw [hp]; simp only [if_pos h]

/-- a connect to an unprotected address leaves nothing pending for its thread -/
theorem unprotected_clears_own_entry (s : State) (t : Thread) (ip port proto : Nat)
    (h : lookup s.policy (destKey ip port proto) = none) :
    lookup (connect4 s t ip port proto).1.localMap t.pidTgid = none := by
  unfold connect4; rw [h]; exact (lookup_delete _ _ _).trans (if_pos rfl)

theorem agent_untouched_kprobe (s : State) (t : Thread) (family daddr dport lport : Nat)
    (h : s.skip.contains t.pid = true) : tcpConnect s t family daddr dport lport = s := by
  simp only [tcpConnect, h, if_true, ite_self]

/-- what one hook invocation by thread `t'` does to the per-thread entry of another thread `t` -/
inductive HookOp where
  | c4 (t : Thread) (ip port proto : Nat)
  | tc (t : Thread) (family daddr dport lport : Nat)

def HookOp.thread : HookOp → Thread
  | .c4 t .. => t
  | .tc t .. => t

def stepOp (s : State) : HookOp → State
  | .c4 t ip port proto => (connect4 s t ip port proto).1
  | .tc t family daddr dport lport => tcpConnect s t family daddr dport lport

@[simp] theorem stepOp_frame (s : State) (op : HookOp) : (stepOp s op).policy = s.policy ∧ (stepOp s op).skip = s.skip := by
  cases op <;> simp [stepOp]

theorem other_thread_preserves (s : State) (op : HookOp) (key : Nat) (h : op.thread.pidTgid ≠ key) :
    lookup (stepOp s op).localMap key = lookup s.localMap key := by
  cases op with
  | c4 t ip port proto => exact connect4_localMap_other s t ip port proto key h
  | tc t family daddr dport lport => exact tcpConnect_localMap_other s t family daddr dport lport key h

/-- hooks run by other threads never touch this thread's pending entry, nor the policy / skip maps -/
theorem others_preserve (s : State) (ops : List HookOp) (key : Nat) (h : ∀ op ∈ ops, op.thread.pidTgid ≠ key) :
    lookup (ops.foldl stepOp s).localMap key = lookup s.localMap key ∧
    (ops.foldl stepOp s).policy = s.policy ∧ (ops.foldl stepOp s).skip = s.skip := by
  induction ops generalizing s with
  | nil => exact ⟨rfl, rfl, rfl⟩
  | cons op ops ih =>
    obtain ⟨h1, h2, h3⟩ := ih (stepOp s op) fun o ho => h o (List.mem_cons_of_mem _ ho)
    exact ⟨h1.trans (other_thread_preserves s op key (h op List.mem_cons_self)),
      h2.trans (stepOp_frame s op).1, h3.trans (stepOp_frame s op).2⟩

/-- **C06(b)** the record: for a redirected connect attempt of thread `t` (cgroup hook, then —
after any hook invocations of *other* threads, in any order — the kprobe on the same thread), the
audit map holds, under the connection's local source port, the caller's user id (low half of
uid_gid), process id (high half of pid_tgid), whether that user id is 0, and the ORIGINAL
destination address and port. -/
theorem audit_record (s : State) (t : Thread) (ip port : Nat) (pol : Dest) (between : List HookOp)
    (family daddr dport lport : Nat)
    (hpol : lookup s.policy (destKey ip port ipprotoTcp) = some pol) (hskip : s.skip.contains t.pid = false)
    (hothers : ∀ op ∈ between, op.thread.pidTgid ≠ t.pidTgid) (hfam : family = afInet) :
    let s1 := (connect4 s t ip port ipprotoTcp).1
    let s2 := between.foldl stepOp s1
    let s3 := tcpConnect s2 t family daddr dport lport
    lookup s3.audit (ipprotoTcp, lport) = some (mkAudit t ip port) ∧
    lookup s3.localMap t.pidTgid = none := by
  intro s1 s2 s3
  obtain ⟨hl, -, hs⟩ := others_preserve s1 between t.pidTgid hothers
  have hl2 : lookup s2.localMap t.pidTgid = some (mkLocal t ip port ipprotoTcp) :=
    hl.trans (by simp only [s1, connect4, hpol, hskip, lookup_update, Bool.false_eq_true, if_false, if_true])
  have hs2 : s2.skip.contains t.pid = false := by
    rw [show s2.skip = s.skip from hs.trans (connect4_frame s t ip port ipprotoTcp).2.1, hskip]
  have e3 : s3 = { s2 with audit := update s2.audit (ipprotoTcp, lport) (mkAudit t ip port),
                           localMap := delete s2.localMap t.pidTgid } := by
    simp only [s3, tcpConnect, hfam, hs2, hl2, ne_eq, not_true, Bool.false_eq_true, if_false]; rfl
  rw [e3]
  exact ⟨(lookup_update _ _ _ _).trans (if_pos rfl), (lookup_delete _ _ _).trans (if_pos rfl)⟩

/-- the recorded identity is the true caller: user id = LOW half of uid_gid, process id = HIGH half
of pid_tgid, is_root iff that user id is 0 -/
theorem record_is_true_caller (t : Thread) (ip port : Nat) :
    (mkAudit t ip port).logonId = lo32 t.uidGid ∧ (mkAudit t ip port).processId = hi32 t.pidTgid ∧
    ((mkAudit t ip port).isRoot = 1 ↔ lo32 t.uidGid = 0) ∧
    (mkAudit t ip port).destIp = ip ∧ (mkAudit t ip port).destPort = port := by
  refine ⟨rfl, rfl, ?_, rfl, rfl⟩
  simp only [mkAudit, Thread.uid]
  by_cases h : lo32 t.uidGid = 0 <;> simp [h]

/-- a connect that was not redirected and does not go to a protected address produces no record -/
theorem no_record_otherwise (s : State) (t : Thread) (family daddr dport lport : Nat)
    (hl : lookup s.localMap t.pidTgid = none) (hp : lookup s.policy (destKey daddr dport ipprotoTcp) = none) :
    tcpConnect s t family daddr dport lport = s := by
  simp only [tcpConnect, hl, hp, ite_self]

/-- **C06(no record otherwise), whatever the thread did before**: a TCP connect to an address that is not protected produces no
record — also when an earlier connect of the same thread to a protected address failed between the two hooks and left its
hand-over entry behind (the state `s` is arbitrary), and whatever other threads do in between -/
theorem no_record_for_unprotected_connect (s : State) (t : Thread) (ip port lport family : Nat) (between : List HookOp)
    (hp : lookup s.policy (destKey ip port ipprotoTcp) = none)
    (hothers : ∀ op ∈ between, op.thread.pidTgid ≠ t.pidTgid) :
    let s1 := (connect4 s t ip port ipprotoTcp).1
    let s2 := between.foldl stepOp s1
    (connect4 s t ip port ipprotoTcp).2 = (ip, port) ∧ tcpConnect s2 t family ip port lport = s2 := by
  intro s1 s2
  obtain ⟨hl, hp2, -⟩ := others_preserve s1 between t.pidTgid hothers
  refine ⟨(untouched_otherwise s t ip port ipprotoTcp (Or.inl hp)).1, no_record_otherwise s2 t family ip port lport ?_ ?_⟩
  · exact hl.trans (unprotected_clears_own_entry s t ip port ipprotoTcp hp)
  · rw [show s2.policy = s.policy from hp2.trans (connect4_frame s t ip port ipprotoTcp).1, hp]

/-! ### negative witness (F12): before the fix a failed protected connect poisoned the thread's next connect -/
theorem old_connect4_stale_entry_records_unprotected_connect :
    let pol := rustPolicyEntry (netIp 127 0 0 1) 3080
    let t : Thread := { pidTgid := 1000 * 2 ^ 32 + 1001, uidGid := 5 * 2 ^ 32 + 1000 }
    -- the thread's connect to IMDS passed connect4 and failed before tcp_connect: its entry is still pending
    let s : State := { policy := [(rustPolicyEntry (netIp 169 254 169 254) 80, pol)], skip := [777],
                       localMap := [(t.pidTgid, mkLocal t (netIp 169 254 169 254) (bswap16 80) 6)], audit := [] }
    -- it now connects to 10.0.0.4:443, which is nobody's business
    let sOld := (connect4Old s t (netIp 10 0 0 4) (bswap16 443) 6).1
    let sNew := (connect4 s t (netIp 10 0 0 4) (bswap16 443) 6).1
    lookup (tcpConnect sOld t afInet (netIp 10 0 0 4) (bswap16 443) 40123).audit (6, 40123) =
        some (mkAudit t (netIp 169 254 169 254) (bswap16 80)) ∧
    lookup (tcpConnect sNew t afInet (netIp 10 0 0 4) (bswap16 443) 40123).audit (6, 40123) = none := by decide +kernel

/-! ### layout and byte order agree between the kernel program and user space -/

theorem byte_mod (a y : Nat) (h : a < 256) : (a + y * 256) % 256 = a := by
  rw [Nat.add_mul_mod_self_right, Nat.mod_eq_of_lt h]

theorem byte_div (a y : Nat) (h : a < 256) : (a + y * 256) / 256 = y := by
  rw [Nat.add_mul_div_right _ _ (by decide), Nat.div_eq_of_lt h, Nat.zero_add]

theorem bswap16_pack (a b : Nat) (ha : a < 256) (hb : b < 256) : bswap16 (a + b * 256) = b + a * 256 := by
  rw [bswap16, byte_mod a b ha, byte_div a b ha, Nat.mod_eq_of_lt hb, Nat.add_comm]

theorem bswap16_involutive (p : Nat) (h : p < 65536) : bswap16 (bswap16 p) = p := by
  have ha : p % 256 < 256 := Nat.mod_lt _ (by decide)
  have hb : p / 256 < 256 := Nat.div_lt_of_lt_mul h
  rw [← Nat.mod_add_div' p 256, bswap16_pack _ _ ha hb, bswap16_pack _ _ hb ha]

theorem bswap16_lt (p : Nat) : bswap16 p < 65536 := by unfold bswap16; omega

/-- the policy key user space writes for (address, port) is the key the kernel program builds from
a connect to that address and port (`ctx->user_port` holds the port in network order) -/
theorem policy_key_agrees (ipv4 port : Nat) :
    rustPolicyEntry ipv4 port = destKey ipv4 (bswap16 port) ipprotoTcp := rfl

/-- the audit key user space looks up for a source port is the key the kprobe writes (`skc_num` is
in host order) -/
theorem audit_key_agrees (lport : Nat) : rustAuditKey lport = (ipprotoTcp, lport) := rfl

theorem ipToSegs_eq (ip : Nat) :
    ipToSegs ip = [ip % 256, ip / 256 % 256, ip / 256 / 256 % 256, ip / 256 / 256 / 256 % 256] := by
  simp only [ipToSegs, Nat.div_div_eq_div_mul, Nat.reduceMul]

theorem netIp_eq (a b c d : Nat) : netIp a b c d = a + (b + (c + d * 256) * 256) * 256 := by
  simp only [netIp, Nat.add_mul, Nat.mul_assoc, Nat.add_assoc, Nat.reduceMul]

theorem ipToSegs_netIp (a b c d : Nat) (ha : a < 256) (hb : b < 256) (hc : c < 256) (hd : d < 256) :
    ipToSegs (netIp a b c d) = [a, b, c, d] := by
  simp only [ipToSegs_eq, netIp_eq, byte_mod, byte_div, Nat.mod_eq_of_lt, ha, hb, hc, hd]

/-- decoding a record gives back the original destination a.b.c.d:port and the caller -/
theorem decode_roundtrip (uid pid a b c d port : Nat) (ha : a < 256) (hb : b < 256) (hc : c < 256) (hd : d < 256)
    (hp : port < 65536) :
    rustDecode { logonId := uid, processId := pid, isRoot := (if uid = 0 then 1 else 0), destIp := netIp a b c d, destPort := bswap16 port } =
      (uid, pid, (if uid = 0 then 1 else 0), [a, b, c, d], port) := by
  show (uid, pid, _, ipToSegs (netIp a b c d), bswap16 (bswap16 port % 65536)) = _
  rw [ipToSegs_netIp a b c d ha hb hc hd, Nat.mod_eq_of_lt (bswap16_lt port), bswap16_involutive port hp]

/-- `string_to_ip ∘ ip_to_string` is the identity on 32-bit addresses (segment level) -/
theorem ip_string_roundtrip (ip : Nat) (h : ip < 2 ^ 32) : segsToIp (ipToSegs ip) = ip := by
  have h3 : ip / 256 / 256 / 256 < 256 :=
    Nat.div_lt_of_lt_mul (Nat.div_lt_of_lt_mul (Nat.div_lt_of_lt_mul (h : ip < 256 * (256 * (256 * 256)))))
  rw [ipToSegs_eq, Nat.mod_eq_of_lt h3]
  show netIp _ _ _ _ = ip
  simp only [netIp_eq, Nat.mod_add_div']

/-- the well-known constants are the network-order forms of the documented addresses -/
theorem facts_addresses :
    Gpa.Facts.wireServerIpNetworkByteOrder = netIp 168 63 129 16 ∧
    Gpa.Facts.imdsIpNetworkByteOrder = netIp 169 254 169 254 ∧
    Gpa.Facts.proxyAgentIpNetworkByteOrder = netIp 127 0 0 1 := by decide +kernel

/-! ### negative witness (F4): taking the HIGH half of uid_gid records the group id -/
def uidFromHighHalf (t : Thread) : Nat := hi32 t.uidGid
theorem high_half_is_gid : uidFromHighHalf { pidTgid := 0, uidGid := 5 * 2 ^ 32 + 1000 } = 5 ∧
    Thread.uid { pidTgid := 0, uidGid := 5 * 2 ^ 32 + 1000 } = 1000 := by decide +kernel

/-! non-vacuity -/
def exState : State :=
  { policy := [(rustPolicyEntry (netIp 168 63 129 16) 80, rustPolicyEntry (netIp 127 0 0 1) 3080)], skip := [777], localMap := [], audit := [] }
def exThread : Thread := { pidTgid := 1000 * 2 ^ 32 + 1001, uidGid := 5 * 2 ^ 32 + 1000 }
example : (connect4 exState exThread (netIp 168 63 129 16) (bswap16 80) 6).2 = (netIp 127 0 0 1, bswap16 3080) := by decide +kernel
example : (connect4 exState exThread (netIp 168 63 129 16) (bswap16 81) 6).2 = (netIp 168 63 129 16, bswap16 81) := by decide +kernel

/-! ### the maps with their declared kinds and capacities -/
section bounded

/-- **obligation on generated facts**: the hand-over map and the audit map are LRU maps, as the model of the hooks assumes -/
theorem facts_maps_are_lru : Gpa.Facts.localMapType = "BPF_MAP_TYPE_LRU_HASH" ∧ Gpa.Facts.auditMapType = "BPF_MAP_TYPE_LRU_HASH" ∧
    0 < Gpa.Facts.localMapMaxEntries ∧ 0 < Gpa.Facts.auditMapMaxEntries := ⟨rfl, rfl, by decide, by decide⟩

/-- the maps as the C source declares them -/
def codeCaps : Caps :=
  { localKind := if Gpa.Facts.localMapType = "BPF_MAP_TYPE_LRU_HASH" then .lru else .hash, localCap := Gpa.Facts.localMapMaxEntries,
    auditKind := if Gpa.Facts.auditMapType = "BPF_MAP_TYPE_LRU_HASH" then .lru else .hash, auditCap := Gpa.Facts.auditMapMaxEntries }

theorem codeCaps_lru : codeCaps.localKind = .lru ∧ codeCaps.auditKind = .lru := by
  simp only [codeCaps, facts_maps_are_lru, if_true, and_self]

/-- one hook event of another thread moves a pending hand-over entry back by at most one place, and only a connect does -/
theorem stepB_keeps_entry (c : Caps) (hl : c.localKind = .lru) (s : State) (e : Ev) (K : Nat) (v : LocalEntry) (j : Nat)
    (h : Holds s.localMap K v j) (hother : e.thread.pidTgid ≠ K) (hj : j + (if e.isC4 then 1 else 0) < c.localCap) :
    Holds (stepB c s e).localMap K v (j + if e.isC4 then 1 else 0) := by
  cases e with
  | c4 t ip port proto => exact connect4B_holds_other c hl s t ip port proto h hother hj
  | tc t f a p l => exact tcpConnectB_holds_other c s t f a p l h hother

def connects (evs : List Ev) : Nat := (evs.filter Ev.isC4).length

theorem connects_cons (e : Ev) (evs : List Ev) : connects (e :: evs) = (if e.isC4 then 1 else 0) + connects evs := by
  unfold connects; cases h : e.isC4 <;> simp [h, Nat.add_comm]

theorem runB_keeps_entry (c : Caps) (hl : c.localKind = .lru) (evs : List Ev) (s : State) (K : Nat) (v : LocalEntry) (j : Nat)
    (h : Holds s.localMap K v j) (hother : ∀ e ∈ evs, e.thread.pidTgid ≠ K) (hj : j + connects evs < c.localCap) :
    Holds (runB c s evs).localMap K v (j + connects evs) := by
  induction evs generalizing s j with
  | nil => exact h
  | cons e evs ih =>
    rw [connects_cons, ← Nat.add_assoc] at hj ⊢
    exact ih (stepB c s e) _
      (stepB_keeps_entry c hl s e K v j h (hother e List.mem_cons_self) (Nat.lt_of_le_of_lt (Nat.le_add_right _ _) hj))
      (fun e' he' => hother e' (List.mem_cons_of_mem _ he')) hj

/-- **C06(capacity)** whatever the hand-over map and the audit map hold (entries leaked by connects that failed between the
hooks, records of earlier connections), and whatever other threads do between this thread's two hooks — as long as fewer of
them connect to a protected address than the hand-over map has entries — the redirected connect gets its record, keyed by its
source port and stating the true caller and the original destination -/
theorem record_with_others_in_flight (c : Caps) (hl : c.localKind = .lru) (ha : c.auditKind = .lru)
    (s : State) (t : Thread) (ip port proto lport : Nat) (pol : Dest)
    (hpol : lookup s.policy (destKey ip port proto) = some pol) (hskip : s.skip.contains t.pid = false)
    (evs : List Ev) (hother : ∀ e ∈ evs, e.thread.pidTgid ≠ t.pidTgid) (hcount : connects evs < c.localCap) :
    lookup (tcpConnectB c (runB c (connect4B c s t ip port proto).1 evs) t afInet (pol.getD 0 0) (pol.getD 4 0) lport).audit
        (proto, lport) = some (mkAudit t ip port) := by
  have h0 : Holds (connect4B c s t ip port proto).1.localMap t.pidTgid (mkLocal t ip port proto) 0 := by
    simp only [connect4B, hpol, hskip, hl, Bool.false_eq_true, if_false]
    exact holds_updateB_lru_self _ _ _ _
  have hh := runB_keeps_entry c hl evs _ t.pidTgid _ 0 h0 hother (by rwa [Nat.zero_add])
  simp only [tcpConnectB, runB_frame, connect4B_frame, hskip, hh.lookup_eq, ha, ne_eq, not_true, Bool.false_eq_true, if_false]
  exact (holds_updateB_lru_self _ _ _ _).lookup_eq

/-- the same for the maps as the C source declares them -/
theorem record_with_others_in_flight_code (s : State) (t : Thread) (ip port proto lport : Nat) (pol : Dest)
    (hpol : lookup s.policy (destKey ip port proto) = some pol) (hskip : s.skip.contains t.pid = false)
    (evs : List Ev) (hother : ∀ e ∈ evs, e.thread.pidTgid ≠ t.pidTgid) (hcount : connects evs < Gpa.Facts.localMapMaxEntries) :
    lookup (tcpConnectB codeCaps (runB codeCaps (connect4B codeCaps s t ip port proto).1 evs) t afInet (pol.getD 0 0)
        (pol.getD 4 0) lport).audit (proto, lport) = some (mkAudit t ip port) :=
  record_with_others_in_flight codeCaps codeCaps_lru.1 codeCaps_lru.2 s t ip port proto lport pol hpol hskip evs hother hcount

/-- negative witness: were the hand-over map a plain hash map, two leaked entries in a map of two would leave the next
redirected connect without a record (the proxy then refuses that connection) -/
theorem plain_hash_leaks_block_record :
    let c : Caps := { localKind := .hash, localCap := 2, auditKind := .lru, auditCap := 2 }
    let pol := rustPolicyEntry (netIp 127 0 0 1) 3080
    let s : State := { policy := [(rustPolicyEntry (netIp 168 63 129 16) 80, pol)], skip := [777],
                       localMap := [(1, mkLocal ⟨1, 0⟩ 9 9 6), (2, mkLocal ⟨2, 0⟩ 9 9 6)], audit := [] }
    let t : Thread := { pidTgid := 1000 * 2 ^ 32 + 1001, uidGid := 5 * 2 ^ 32 + 1000 }
    let r := connect4B c s t (netIp 168 63 129 16) (bswap16 80) 6
    r.2 = (netIp 127 0 0 1, bswap16 3080) ∧
    lookup (tcpConnectB c r.1 t afInet r.2.1 r.2.2 40123).audit (6, 40123) = none := by decide +kernel

/-- non-vacuity: a full map of leaked entries and one other connect in flight -/
example :
    let s : State := { policy := [(rustPolicyEntry (netIp 168 63 129 16) 80, rustPolicyEntry (netIp 127 0 0 1) 3080)], skip := [777],
                       localMap := [(1, mkLocal ⟨1, 0⟩ 9 9 6), (2, mkLocal ⟨2, 0⟩ 9 9 6)], audit := [] }
    let c : Caps := { localKind := .lru, localCap := 2, auditKind := .lru, auditCap := 2 }
    let t : Thread := { pidTgid := 1000 * 2 ^ 32 + 1001, uidGid := 5 * 2 ^ 32 + 1000 }
    let other : Thread := { pidTgid := 7 * 2 ^ 32 + 7, uidGid := 0 }
    lookup (tcpConnectB c (runB c (connect4B c s t (netIp 168 63 129 16) (bswap16 80) 6).1
        [.c4 other (netIp 168 63 129 16) (bswap16 80) 6]) t afInet (netIp 127 0 0 1) (bswap16 3080) 40123).audit (6, 40123) =
      some (mkAudit t (netIp 168 63 129 16) (bswap16 80)) := by decide +kernel

end bounded

/-! ### negative witness: audit writes that refuse to overwrite (`BPF_NOEXIST`) keep a stale record under a source port used again -/
def updateNoExist {κ β} [DecidableEq κ] (m : List (κ × β)) (k : κ) (v : β) : List (κ × β) :=
  if (lookup m k).isSome then m else update m k v

theorem noexist_keeps_the_earlier_callers_record :
    let earlier : Thread := { pidTgid := 7 * 2 ^ 32 + 7, uidGid := 1000 }
    let later : Thread := { pidTgid := 9 * 2 ^ 32 + 9, uidGid := 0 }
    -- an earlier connection from source port 40123 (uid 1000, to IMDS) left its record; root now connects to WireServer from that port
    let audit0 := update ([] : List ((Nat × Nat) × AuditVal)) (6, 40123) (mkAudit earlier (netIp 169 254 169 254) (bswap16 80))
    lookup (updateNoExist audit0 (6, 40123) (mkAudit later (netIp 168 63 129 16) (bswap16 80))) (6, 40123) =
        some (mkAudit earlier (netIp 169 254 169 254) (bswap16 80)) ∧
    lookup (update audit0 (6, 40123) (mkAudit later (netIp 168 63 129 16) (bswap16 80))) (6, 40123) =
        some (mkAudit later (netIp 168 63 129 16) (bswap16 80)) := by decide +kernel

/-! ### where the hook is attached -/
section attach
open Gpa.Attach

/-- the agent attaches at the first cgroup2 mount findmnt lists, and at the configured root when the lookup
gives nothing -/
theorem attach_point_is_first_listed (m : Mount) (ms : List Mount) (cfg : Mount) :
    attachPoint (.listed (m :: ms)) cfg = m ∧ attachPoint (.listed []) cfg = cfg ∧ attachPoint .failed cfg = cfg :=
  ⟨rfl, rfl, rfl⟩

/-- **C06(attach)** when the first mount listed (the one the system made at boot) is the whole hierarchy, the
connect hook runs for every process, whatever cgroup it lives in and whatever else is mounted later -/
theorem hook_runs_for_every_process (m : Mount) (ms : List Mount) (cfg : Mount) (h : m.top = []) (c : Cg) :
    hooked (attachPoint (.listed (m :: ms)) cfg).top c = true := by
  show hooked m.top c = true
  rw [h]; unfold hooked; cases c <;> rfl

/-- an attach point that is not the whole hierarchy leaves some process unhooked -/
theorem sub_cgroup_misses_a_process (a : Cg) (h : a ≠ []) : ∃ c : Cg, hooked a c = false := by
  refine ⟨[], ?_⟩
  cases a with
  | nil => exact absurd rfl h
  | cons x xs => rfl

/-- negative witness: choosing the LAST mount listed attaches below the root as soon as a sub-directory of the
hierarchy is bind-mounted somewhere, and a process outside that sub-directory is then never redirected -/
theorem last_listed_misses :
    let l := Lookup.listed [⟨"/sys/fs/cgroup", []⟩, ⟨"/run/c/cgroup", ["system.slice", "c.service"]⟩]
    (lastListed l).map (fun m => hooked m.top ["user.slice"]) = some false ∧
    (mountPath l).map (fun m => hooked m.top ["user.slice"]) = some true := by decide +kernel

end attach

/-! ### the policy map follows the last switch

`update_*_redirect_policy` is called whenever the reported channel state changes; what connect4 then does for
a destination is decided by the policy map alone (`redirect_iff`). After any history of switches the map must
say, for every destination, what the *last* switch for it said. -/
section switches

inductive Switch where
  | on (k v : Dest)
  | off (k : Dest)
  deriving DecidableEq, Repr

def Switch.key : Switch → Dest
  | .on k _ => k
  | .off k => k

def applySwitch (m : List (Dest × Dest)) : Switch → List (Dest × Dest)
  | .on k v => update m k v
  | .off k => delete m k

/-- the last switch of the history that names `k` -/
def lastFor (k : Dest) : List Switch → Option Switch
  | [] => none
  | s :: t => match lastFor k t with
    | some x => some x
    | none => if s.key = k then some s else none

theorem lookup_applySwitch (m : List (Dest × Dest)) (s : Switch) (k : Dest) :
    lookup (applySwitch m s) k =
      if s.key = k then (match s with | .on _ v => some v | .off _ => none) else lookup m k := by
  cases s with
  | on q v => exact lookup_update m q k v
  | off q => exact lookup_delete m q k

/-- **C06 / C09 (policy map)** whatever the map held and whatever switches came before: after a history of
switches, a destination is redirected exactly as the last switch that names it said, and as before when none does -/
theorem policy_follows_last_switch (m : List (Dest × Dest)) (sw : List Switch) (k : Dest) :
    lookup (sw.foldl applySwitch m) k =
      match lastFor k sw with
      | some (.on _ v) => some v
      | some (.off _) => none
      | none => lookup m k := by
  induction sw generalizing m with
  | nil => rfl
  | cons s t ih =>
    rw [List.foldl_cons, ih, lastFor]
    cases lastFor k t with
    | some x => cases x <;> rfl
    | none =>
      rw [lookup_applySwitch]
      dsimp only
      split
      · cases s <;> rfl
      · rfl

/-- negative witness: a switch that is skipped (the object was busy) leaves the destination redirected after
it was switched off — the map no longer says what the last switch said -/
theorem skipped_switch_leaves_policy_stale :
    let k : Dest := destKey 0x10813FA8 0x5000 ipprotoTcp
    let v : Dest := destKey 0x0100007F 0x080C ipprotoTcp
    lookup ([Switch.on k v].foldl applySwitch []) k = some v ∧
    lookup ([Switch.on k v, Switch.off k].foldl applySwitch []) k = none := by decide +kernel

example : lastFor [1] [Switch.on [1] [2], Switch.off [3], Switch.on [1] [4]] = some (Switch.on [1] [4]) := by decide +kernel

end switches

end Gpa.Props.C06
