/-
C04  Relayed requests carry a valid HMAC over exactly what the host receives.
The MAC itself is a parameter (`mac key input`, HMAC-SHA256 in the code; cross-checked against
hashlib in the correspondence): the theorems are about *what is signed* and *what is sent*.
-/
import Gpa.Lemmas.Pipeline
import Gpa.Lemmas.Canon
import Gpa.Props.C05
namespace Gpa.Props.C04
open Gpa.Pipeline Gpa.Canon Gpa.Text Gpa.Url Gpa.Headers

variable (mac : Str → List UInt8 → Str)

/-- **C04(a)** both signing routes yield the same canonical string for the same request -/
theorem routes_agree (method : Str) (body : List UInt8) (hs : Headers) (u : Uri) :
    sigInputBuilder method (some body) hs u = sigInput method body hs u ∧
    sigInputBuilder method none hs u = sigInput method [] hs u := by
  simp [sigInputBuilder, sigInput]

/-- **C04(b)** what is signed is what is sent: when the proxy signs, the host — applying the same
canonicalisation to the method, URL, headers and body it *receives* — obtains exactly the string
the MAC was computed over (the authorization header itself being excluded by the rule), for every
request, header set (any order, case, blanks, repeats) and body. -/
theorem signed_is_sent (env : Env) (conn : Conn) (r : Req) (u : UpReq)
    (h : (handle mac env conn r).outcome = .forward u) (guid : Str) (si : List UInt8)
    (hs : u.signed = some (guid, si)) :
    sigInput u.method u.body u.headers u.uri = si := by
  obtain ⟨caller, _, _, _, rfl⟩ := handle_forward mac env conn r u h
  obtain ⟨_, _, rfl, hh⟩ := upstream_signed mac env caller r guid si hs
  show sigInput r.method r.body (upstream mac env caller r).headers r.uri = _
  rw [hh, sigInput_insert_auth]

/-- **C04(c)** the authorization header of a signed request is `scheme keyId mac`, with the id of
the key the MAC was computed under (one header: `C05.client_authorization_never_forwarded_when_signed`) -/
theorem auth_value_format (env : Env) (conn : Conn) (r : Req) (u : UpReq)
    (h : (handle mac env conn r).outcome = .forward u) (guid : Str) (si : List UInt8)
    (hs : u.signed = some (guid, si)) :
    ∃ key, env.key = some (guid, key) ∧
      get? authHeader u.headers = some (authScheme ++ [' '] ++ guid ++ [' '] ++ mac key si) := by
  obtain ⟨key, hk, _, hg⟩ := Gpa.Props.C05.client_authorization_never_forwarded_when_signed mac env conn r u h guid si hs
  exact ⟨key, hk, hg⟩

theorem facts_scheme : Gpa.Facts.authorizationScheme = "Azure-HMAC-SHA256" := rfl

/-- **C04(d)** while a key with a well-formed hex value is latched, every relayed request is signed
except exactly the two documented exempt method/URL pairs -/
theorem signed_unless_exempt (env : Env) (conn : Conn) (r : Req) (u : UpReq) (guid key : Str)
    (h : (handle mac env conn r).outcome = .forward u) (hk : env.key = some (guid, key)) (hx : isHexKey key = true) :
    (u.signed = none ↔ shouldSkipSig r.method r.uri = true) := by
  obtain ⟨caller, _, _, _, rfl⟩ := handle_forward mac env conn r u h
  simp only [upstream, signing, hk, hx]
  split <;> simp [*]

/-- **obligation on generated facts**: the two URL texts compared in `should_skip_sig` are the documented ones, and there are
exactly two method/URL clauses -/
theorem skip_urls_are_spec : Gpa.Facts.skipSigPutUrl.toList = "/vmagentlog".toList ∧
    Gpa.Facts.skipSigPostUrl.toList = "/machine/?comp=telemetrydata".toList ∧ Gpa.Facts.skipSigClauses = 2 :=
  ⟨rfl, rfl, rfl⟩

theorem skip_iff (method : Str) (u : Uri) :
    shouldSkipSig method u = true ↔
      ((method = "PUT".toList ∧ lower u.toStr = "/vmagentlog".toList) ∨
       (method = "POST".toList ∧ lower u.toStr = "/machine/?comp=telemetrydata".toList)) :=
  shouldSkipSig_iff method u

/-- **C04(e)** layout/coverage: the signed string is
`method LF body LF canonical-headers path LF canonical-parameters`, so the method, every body byte
and the path are covered verbatim -/
theorem coverage_layout (method : Str) (body : List UInt8) (hs : Headers) (u : Uri) :
    sigInput method body hs u =
      utf8 method ++ [10] ++ body ++ [10] ++ utf8 (canonHeaders hs) ++ utf8 u.path ++ [10] ++ utf8 (canonParams u) := rfl

theorem exists_of_infix {α} {x l : List α} (h : x <:+: l) : ∃ pre post, l = pre ++ x ++ post :=
  let ⟨pre, post, e⟩ := h; ⟨pre, post, e.symm⟩

/-- every header name whose last value is `v` contributes the line `name:text(v) LF` -/
theorem coverage_headers (hs : Headers) (n v : Str) (hm : (n, v) ∈ lastPerName hs) (hn : n ≠ authHeader) :
    ∃ pre post, canonHeaders hs = pre ++ (n ++ [':'] ++ valueText v ++ ['\n']) ++ post := by
  have hmem : (n, v) ∈ (sortBy (fun a b => strLt a.1 b.1) (lastPerName hs)).filter (fun kv => kv.1 ≠ authHeader) :=
    List.mem_filter.mpr ⟨mem_sortBy.mpr hm, by simpa using hn⟩
  exact exists_of_infix (List.infix_of_mem_flatten (List.mem_map_of_mem hmem))

/-! ### negative witnesses: what the canonical form does NOT cover (known finding F3) -/

def uriQ (q : String) : Uri := { path := "/m".toList, query := some q.toList }

/-- two parameters whose `key ++ value` concatenations coincide collapse to one … -/
theorem concat_collision_drops_a_parameter :
    canonParams (uriQ "a=bc&ab=c") = "ab=c".toList ∧ canonParams (uriQ "ab=c") = "ab=c".toList := by decide +kernel

/-- … and which one survives depends on their order -/
theorem concat_collision_order_dependent :
    canonParams (uriQ "a=bc&ab=c") ≠ canonParams (uriQ "ab=c&a=bc") := by decide +kernel

/-- a repeated header name is signed with its last value only -/
theorem repeated_header_last_value_only :
    canonHeaders (ofWire [("x-a".toList, "one".toList), ("x-a".toList, "two".toList)]) =
    canonHeaders (ofWire [("x-a".toList, "two".toList)]) := by decide +kernel

/-! non-vacuity -/
example : sigInput "GET".toList [] (ofWire [("Host".toList, "h".toList)]) (uriQ "b=2&a=1") =
    utf8 "GET\n\nhost:h\n/m\na=1&b=2".toList := by decide +kernel

/-! ### the order of the `&`-separated pairs does not matter -/

/-- **C04(f)** two requests whose query strings hold the same pairs in a different order are signed with the
same canonical parameter string — for queries without the key+value collisions of finding F3 -/
theorem canonParams_perm (u u' : Uri) (hp : (queryPairs u').Perm (queryPairs u))
    (hd : ((queryPairs u).map fun kv => lower kv.1 ++ kv.2).Nodup) : canonParams u' = canonParams u := by
  have hd' := (hp.map _).nodup_iff.mpr hd
  unfold canonParams
  simp only []
  rw [lastPerKey_map_nodup _ _ _ hd, lastPerKey_map_nodup _ _ _ hd',
    sortBy_key_perm (hp.map _) (nodup_map_fst _ _ _ hd')]

theorem infix_foldl_join (p : Str) (ps : List Str) (x : Str) (hx : x <:+: p ∨ x ∈ ps) :
    x <:+: ps.foldl (fun acc q => acc ++ ['&'] ++ q) p := by
  induction ps generalizing p with
  | nil => exact hx.resolve_right List.not_mem_nil
  | cons q qs ih =>
    rw [List.mem_cons] at hx
    refine ih _ ?_
    rcases hx with h | rfl | h
    · exact .inl (List.infix_append_of_infix_left (List.infix_append_of_infix_left h))
    · exact .inl List.infix_append_right
    · exact .inr h

theorem infix_join (parts : List Str) (x : Str) : x ∈ parts →
    x <:+: match parts with
      | [] => []
      | p :: ps => ps.foldl (fun acc q => acc ++ ['&'] ++ q) p := by
  intro hx
  cases parts with
  | nil => cases hx
  | cons p ps => exact infix_foldl_join p ps x ((List.mem_cons.mp hx).imp_left fun (e : x = p) => e ▸ List.infix_rfl)

/-- **C04(g)** coverage of the query: for a query without the key+value collisions of finding F3, every
pair occurs in the canonical parameter string, as `lower(key)=value` (or the bare lower-cased key when the
value is empty) — so no parameter of such a query is left out of what is signed -/
theorem coverage_query (u : Uri) (k v : Str) (hm : (k, v) ∈ queryPairs u)
    (hd : ((queryPairs u).map fun kv => lower kv.1 ++ kv.2).Nodup) :
    ∃ pre post, canonParams u = pre ++ (if v.isEmpty then lower k ++ v else lower k ++ ['='] ++ v) ++ post := by
  unfold canonParams
  simp only []
  rw [lastPerKey_map_nodup _ _ _ hd]
  exact exists_of_infix (infix_join _ _ (List.mem_map.mpr ⟨_, mem_sortBy.mpr (List.mem_map_of_mem hm), rfl⟩))

example : canonParams { path := ['/', 'p'], query := some ['b', '=', '2', '&', 'A', '=', '1'] } =
    canonParams { path := ['/', 'p'], query := some ['a', '=', '1', '&', 'b', '=', '2'] } := by decide +kernel
example : (queryPairs { path := ['/', 'p'], query := some ['b', '=', '2', '&', 'A', '=', '1'] }).Perm
    (queryPairs { path := ['/', 'p'], query := some ['A', '=', '1', '&', 'b', '=', '2'] }) := by decide +kernel

end Gpa.Props.C04
