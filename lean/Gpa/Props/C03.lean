/-
C03  WireServer/HostGAPlugin are root-only under every policy; no self-proxying.
-/
import Gpa.Lemmas.Pipeline
namespace Gpa.Props.C03
open Gpa.Pipeline Gpa.Rbac Gpa.Text Gpa.Url

variable (mac : Str → List UInt8 → Str)

/-- obligations on generated facts: the four endpoint selectors are the documented addresses, and
the proxy's own address is distinct from the metadata endpoints -/
theorem facts_endpoints :
    Gpa.Facts.wireServerIp = "168.63.129.16" ∧ Gpa.Facts.wireServerPort = 80 ∧
    Gpa.Facts.gaPluginIp = "168.63.129.16" ∧ Gpa.Facts.gaPluginPort = 32526 ∧
    Gpa.Facts.imdsIp = "169.254.169.254" ∧ Gpa.Facts.imdsPort = 80 ∧
    Gpa.Facts.proxyAgentIp = "127.0.0.1" ∧ Gpa.Facts.proxyAgentPort = 3080 := ⟨rfl, rfl, rfl, rfl, rfl, rfl, rfl, rfl⟩

/-- **C03(a)** a caller that is not elevated is Forbidden on WireServer and HostGAPlugin for every
rule set (none, disabled, audit, enforce, any default, even rules that grant the caller) and URL -/
theorem nonelevated_forbidden (ep : Endpoint) (h : ep = .wireServer ∨ ep = .gaPlugin)
    (caller : Caller) (hne : caller.elevated = false) (u : Uri) (rules : Option Item) :
    authorize ep caller u rules = .forbidden := by
  rcases h with h | h <;> subst h <;> simp [authorize, hne]

/-- **C03(b)** the proxy's own listener address as original destination is always Forbidden -/
theorem self_destination_forbidden (caller : Caller) (u : Uri) (rules : Option Item) :
    authorize .proxySelf caller u rules = .forbidden := rfl

theorem endpointOf_self : endpointOf "127.0.0.1".toList 3080 = .proxySelf := by rw [endpointOf_toList]; decide
theorem endpointOf_wireServer : endpointOf "168.63.129.16".toList 80 = .wireServer := by rw [endpointOf_toList]; decide
theorem endpointOf_gaPlugin : endpointOf "168.63.129.16".toList 32526 = .gaPlugin := by rw [endpointOf_toList]; decide

theorem authorize_forbidden (ep : Endpoint) (caller : Caller) (u : Uri) (rules : Option Item)
    (h : ((ep = .wireServer ∨ ep = .gaPlugin) ∧ caller.elevated = false) ∨ ep = .proxySelf) :
    authorize ep caller u rules = .forbidden :=
  h.elim (fun h => nonelevated_forbidden ep h.1 caller h.2 u rules) fun h => h ▸ rfl

def isForward : Outcome → Bool
  | .forward _ => true
  | _ => false

/-- **C03(c)** composed with the pipeline: such a request is never relayed — whatever the
environment (rules in any mode, key or none), the request and its headers/body -/
theorem never_relayed (env : Env) (conn : Conn) (r : Req) (ip : Str) (port : Nat) (caller : Caller)
    (hd : conn.dest = some (ip, port)) (hc : conn.caller = some caller)
    (h : ((endpointOf ip port = .wireServer ∨ endpointOf ip port = .gaPlugin) ∧ caller.elevated = false) ∨
          endpointOf ip port = .proxySelf) :
    isForward (handle mac env conn r).outcome = false := by
  cases hf : (handle mac env conn r).outcome with
  | forward u =>
    obtain ⟨_, _, hg, _⟩ := handle_forward mac env conn r u hf
    obtain ⟨-, hc', _, _, rules, hd', -, hauth, -⟩ := gate_pass hg
    rw [hd] at hd'; rw [hc] at hc'
    cases hd'; cases hc'
    exact absurd (authorize_forbidden _ caller r.uri rules h) hauth
  | _ => rfl

/-- and when it gets as far as authorization the answer is 403 -/
theorem refused_403 (env : Env) (conn : Conn) (r : Req) (ip : Str) (port : Nat) (caller : Caller) (rules)
    (hl : ¬ (r.declared.getD 0) > limitFor r) (ht : containsSub r.uri.path ['.', '.'] = false)
    (hp : r.uri.toStr ≠ provisionUrl)
    (hd : conn.dest = some (ip, port)) (hc : conn.caller = some caller)
    (hr : rulesFor (endpointOf ip port) env = .ok rules)
    (h : ((endpointOf ip port = .wireServer ∨ endpointOf ip port = .gaPlugin) ∧ caller.elevated = false) ∨
          endpointOf ip port = .proxySelf) :
    (handle mac env conn r).outcome = .respond 403 := by
  rw [handle_attributed mac env conn r ip port caller hl ht hp hd hc,
    authStage_forbidden mac env r ip port caller rules hr (authorize_forbidden _ caller r.uri rules h)]

/-! non-vacuity: an elevated caller IS relayed to WireServer without rules -/
example : authorize .wireServer { claims := ⟨[], [], [], []⟩, elevated := true } ⟨[], none⟩ none = .ok := by decide +kernel
example : authorize .wireServer { claims := ⟨[], [], [], []⟩, elevated := false } ⟨[], none⟩ none = .forbidden := by decide +kernel

end Gpa.Props.C03
