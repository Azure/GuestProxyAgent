/-
C18  Telemetry is delivered at most once, well-formed, in bounded batches.
-/
import Gpa.Model.TelemetryXml
namespace Gpa.Props.C18
open Gpa.Telemetry Gpa.Text

/-- the cap in the property text -/
def specCap : Nat := 64 * 1024
theorem facts_cap : maxMessageSize = specCap := by decide

/-! ### escaping -/

theorem replaceChar_eq (c : Char) (r : Str) (s : Str) :
    replaceChar c r s = s.flatMap fun x => if x = c then r else [x] := rfl

theorem xmlEscape_append (a b : Str) : xmlEscape (a ++ b) = xmlEscape a ++ xmlEscape b := by
  simp only [xmlEscape, replaceChar, List.flatMap_append]

/-- on a special character both sides compute; on any other no replacement applies -/
theorem xmlEscape_single (c : Char) : xmlEscape [c] = escChar c := by
  fun_cases escChar c
  case case6 => simp [xmlEscape, replaceChar, *]  -- none of the five special characters
  all_goals subst c; rfl

/-- the five sequential replacements are the character-wise escape -/
theorem xmlEscape_eq_flatMap (s : Str) : xmlEscape s = s.flatMap escChar := by
  induction s with
  | nil => rfl
  | cons c cs ih => rw [List.flatMap_cons, ← xmlEscape_single, ← ih]; exact xmlEscape_append [c] cs

def isMarkup (c : Char) : Bool := c = '<' || c = '>' || c = '"' || c = '\''

def Plain (s : Str) : Prop := ∀ c ∈ s, isMarkup c = false

instance : DecidablePred Plain := fun s => inferInstanceAs (Decidable (∀ c ∈ s, isMarkup c = false))

theorem Plain.ne {s : Str} (h : Plain s) {q : Char} (hq : isMarkup q = true) : ∀ c ∈ s, c ≠ q := by
  intro c hc hcq
  rw [← hcq, h c hc] at hq
  cases hq

theorem escChar_plain (x : Char) : Plain (escChar x) := by
  fun_cases escChar x
  case case6 => simp [Plain, isMarkup, *]  -- none of the five
  all_goals decide

theorem xmlEscape_plain (s : Str) : Plain (xmlEscape s) := by
  intro c hc
  rw [xmlEscape_eq_flatMap, List.mem_flatMap] at hc
  obtain ⟨x, _, hx⟩ := hc
  exact escChar_plain x c hx

/-- **C18(a)** the escaped text contains none of `< > " '` — for every text -/
theorem escape_safe (s : Str) : ∀ c ∈ xmlEscape s, isMarkup c = false := xmlEscape_plain s

theorem natStr_plain (n : Nat) : Plain (natStr n) := by
  have hd : ∀ d < 10, Plain [digitChar d] := by decide
  fun_induction natStr n with
  | case1 n h => exact hd n h
  | case2 n h ih => exact List.forall_mem_append.mpr ⟨ih, hd _ (Nat.mod_lt _ (by omega))⟩

theorem unescape_cons (c : Char) (rest : Str) (h : c ≠ '&') : unescape (c :: rest) = c :: unescape rest := by
  -- the last equation of `unescape`, provided none of the five patterns before it applies
  rw [unescape]
  all_goals (intro r heq; cases heq; exact absurd rfl h)

theorem unescape_escChar (c : Char) (rest : Str) : unescape (escChar c ++ rest) = c :: unescape rest := by
  fun_cases escChar c
  case case6 h _ _ _ _ => exact unescape_cons c rest h  -- none of the five
  all_goals subst c; rfl

/-- **C18(b)** the data is preserved: decoding the five references gives the text back -/
theorem unescape_escape (s : Str) : unescape (xmlEscape s) = s := by
  rw [xmlEscape_eq_flatMap]
  induction s with
  | nil => rfl
  | cons c cs ih => rw [List.flatMap_cons, unescape_escChar, ih]

/-! ### batching -/

theorem fill_partition (c : Ctx) (cur p : List Event) : (fill c cur p).1 ++ (fill c cur p).2 = cur ++ p := by
  -- the arms of `fill`: nothing pending; the next event would reach the cap; it is added
  fun_induction fill c cur p with
  | case1 cur => simp
  | case2 cur e rest h => rfl
  | case3 cur e rest h ih => simpa using ih

theorem fill_size (c : Ctx) (cur p : List Event) (h : size c cur < maxMessageSize) :
    size c (fill c cur p).1 < maxMessageSize := by
  fun_induction fill c cur p with
  | case1 cur => exact h
  | case2 cur e rest _ => exact h
  | case3 cur e rest hlt ih => exact ih (by omega)

theorem fill_nonempty (c : Ctx) (cur p : List Event) (h : cur ≠ []) : (fill c cur p).1 ≠ [] := by
  fun_induction fill c cur p with
  | case1 cur => exact h
  | case2 cur e rest _ => exact h
  | case3 cur e rest _ ih => exact ih (by simp)

/-- **C18(c)** every uploaded batch is a document smaller than 64 KiB and holds at least one event -/
theorem batch_lt_64KiB (c : Ctx) (p : List Event) :
    ∀ b ∈ (sendEvents c p).batches, size c b < specCap ∧ b ≠ [] := by
  rw [← facts_cap]
  -- the arms of `sendEvents`: nothing pending; an event too large for any batch; a batch is filled
  fun_induction sendEvents c p with
  | case1 => exact List.forall_mem_nil _
  | case2 e rest hbig r ih => exact ih
  | case3 e rest hsmall _ r ih =>
    exact List.forall_mem_cons.mpr
      ⟨⟨fill_size c [e] rest (Nat.lt_of_not_ge hsmall), fill_nonempty c [e] rest (List.cons_ne_nil e [])⟩, ih⟩

/-- **C18(d)** each event of the store ends up in exactly one place: one batch, or the dropped list
(the batches and the dropped events partition the input) -/
theorem each_event_in_at_most_one_batch (c : Ctx) (p : List Event) :
    ((sendEvents c p).batches.flatten ++ (sendEvents c p).dropped).Perm p := by
  fun_induction sendEvents c p with
  | case1 => exact .nil
  | case2 e rest hbig r ih => exact List.perm_middle.trans (ih.cons e)
  | case3 e rest hsmall _ r ih =>
    rw [List.flatten_cons, List.append_assoc]
    exact (ih.append_left _).trans (.of_eq (fill_partition c [e] rest))

/-- **C18(e)** an event is dropped only when it alone does not fit in any batch, and dropping it
does not block the events after it -/
theorem dropped_only_oversize (c : Ctx) (p : List Event) :
    ∀ e ∈ (sendEvents c p).dropped, size c [e] ≥ specCap := by
  rw [← facts_cap]
  fun_induction sendEvents c p with
  | case1 => exact List.forall_mem_nil _
  | case2 e rest hbig r ih => exact List.forall_mem_cons.mpr ⟨hbig, ih⟩
  | case3 e rest hsmall _ r ih => exact ih

theorem oversize_dropped_not_blocking (c : Ctx) (e : Event) (rest : List Event) (h : size c [e] ≥ maxMessageSize) :
    (sendEvents c (e :: rest)).batches = (sendEvents c rest).batches ∧
    (sendEvents c (e :: rest)).dropped = e :: (sendEvents c rest).dropped := by
  rw [sendEvents.eq_def]
  simp only [h, ↓reduceIte, and_self]

/-- **C18(f)** at most one successful upload per batch, at most five attempts -/
theorem upload_bounded (n : Nat) (plan : List Bool) : (upload n plan).1 ≤ n := by
  -- the arms of `upload`: no attempt left; no answer scripted; success; failure and the next attempt
  fun_induction upload n plan with
  | case1 | case2 | case3 => simp
  | case4 n ok rest hok r ih => exact Nat.succ_le_succ ih

theorem upload_stops_at_first_success (n : Nat) (plan : List Bool) (h : (upload n plan).2 = true) :
    plan.take (upload n plan).1 = List.replicate ((upload n plan).1 - 1) false ++ [true] := by
  fun_induction upload n plan with
  | case1 | case2 => cases h
  | case3 => rfl
  | case4 n ok rest hok r ih =>
    have ih : rest.take r.1 = List.replicate (r.1 - 1) false ++ [true] := ih h
    -- `ih` itself shows that `r` made at least one attempt
    cases hr : r.1 with
    | zero => simp [hr] at ih
    | succ k =>
      rw [hr] at ih
      simp [ih, hok, List.replicate_succ]

/-- **C18(g)** processing removes every file it consumed and touches no other file -/
theorem files_removed (dir files : List String) :
    (∀ f ∈ files, f ∉ processFiles dir files) ∧ (∀ f ∈ dir, f ∉ files → f ∈ processFiles dir files) := by
  constructor
  · intro f hf hmem
    simp [processFiles, hf] at hmem
  · intro f hf hnot
    simp [processFiles, hf, hnot]

/-- processing always terminates: `sendEvents` is a total function (well-founded on the number of
pending events), and it consumes at least one event per round -/
theorem terminates_progress (c : Ctx) (e : Event) (rest : List Event) :
    (fill c [e] rest).2.length < (e :: rest).length := by
  have := fill_rest_le c [e] rest
  simp only [List.length_cons]; omega

/-! ### the document structure does not depend on the events' text -/

theorem stripPre_append (p rest : Str) : stripPre p (p ++ rest) = some rest := by
  induction p with
  | nil => cases rest <;> rfl
  | cons c cs ih => simp [stripPre, ih]

theorem takeUntil_append (q : Char) (a rest : Str) (h : ∀ c ∈ a, c ≠ q) : takeUntil q (a ++ q :: rest) = some (a, rest) := by
  induction a with
  | nil => simp [takeUntil]
  | cons c cs ih =>
    obtain ⟨hc, hcs⟩ := List.forall_mem_cons.mp h
    simp only [List.cons_append, takeUntil, if_neg hc, ih hcs]

theorem readParam_paramOf (name value ty rest : Str) (hn : Plain name) (hv : Plain value) (ht : Plain ty) :
    readParam (paramOf name value ty ++ rest) = some ({ name := name, value := value, ty := ty }, rest) := by
  have q : isMarkup '"' = true := by decide
  simp only [readParam, paramOf, List.append_assoc, List.cons_append, List.nil_append, stripPre_append,
    takeUntil_append '"' _ _ (hn.ne q), takeUntil_append '"' _ _ (hv.ne q), takeUntil_append '"' _ _ (ht.ne q)]

/-- the writer's string constants are the reader's character lists. A literal is `String.ofList` of its
characters, so `String.toList_ofList` compares them without decoding any UTF-8. -/
theorem param_eq (name tail : String) (value ty : Str) (h : tail.toList = '"' :: pType ++ ty ++ '"' :: pClose) :
    ("<Param Name=\"" ++ name ++ "\" Value=\"").toList ++ value ++ tail.toList = paramOf name.toList value ty := by
  have h1 : "<Param Name=\"".toList = pOpen := String.toList_ofList
  have h2 : "\" Value=\"".toList = '"' :: pValue := String.toList_ofList
  simp only [paramOf, String.toList_append, h, h1, h2, List.append_assoc, List.cons_append, List.nil_append]

theorem paramStr_eq (name : String) (v : Str) : paramStr name v = paramOf name.toList (xmlEscape v) tyStr :=
  param_eq name _ _ _ String.toList_ofList

theorem paramNum_eq (name : String) (n : Nat) : paramNum name n = paramOf name.toList (natStr n) tyNum :=
  param_eq name _ _ _ String.toList_ofList

def attrOfTriple (t : Str × Str × Str) : Attr := { name := t.1, value := t.2.1, ty := t.2.2 }

theorem readParams_list (l : List (Str × Str × Str)) (h : ∀ t ∈ l, Plain t.1 ∧ Plain t.2.1 ∧ Plain t.2.2) :
    readParams l.length (l.map fun t => paramOf t.1 t.2.1 t.2.2).flatten = some (l.map attrOfTriple) := by
  induction l with
  | nil => rfl
  | cons t ts ih =>
    obtain ⟨⟨hn, hv, ht⟩, hts⟩ := List.forall_mem_cons.mp h
    simp only [List.map_cons, List.flatten_cons, List.length_cons, readParams, readParam_paramOf _ _ _ _ hn hv ht, ih hts]
    rfl

/-- the 23 parameters of an event as (name, written value, type): every text field is written escaped,
every number in decimal -/
def triples (c : Ctx) (e : Event) : List (Str × Str × Str) :=
  [ ("OpcodeName".toList, xmlEscape e.timeStamp, tyStr),
    ("KeywordName".toList, xmlEscape c.keywordName, tyStr),
    ("TaskName".toList, xmlEscape e.taskName, tyStr),
    ("TenantName".toList, xmlEscape c.tenantName, tyStr),
    ("RoleName".toList, xmlEscape c.roleName, tyStr),
    ("RoleInstanceName".toList, xmlEscape c.roleInstanceName, tyStr),
    ("ContainerId".toList, xmlEscape c.containerId, tyStr),
    ("ResourceGroupName".toList, xmlEscape c.resourceGroupName, tyStr),
    ("SubscriptionId".toList, xmlEscape c.subscriptionId, tyStr),
    ("VMId".toList, xmlEscape c.vmId, tyStr),
    ("EventPid".toList, natStr (parseU64 e.pid), tyNum),
    ("EventTid".toList, natStr (parseU64 e.tid), tyNum),
    ("ImageOrigin".toList, natStr c.imageOrigin, tyNum),
    ("ExecutionMode".toList, xmlEscape "ProxyAgent".toList, tyStr),
    ("OSVersion".toList, xmlEscape c.osVersion, tyStr),
    ("GAVersion".toList, xmlEscape e.version, tyStr),
    ("RAM".toList, natStr c.ram, tyNum),
    ("Processors".toList, natStr c.processors, tyNum),
    ("EventName".toList, xmlEscape "MicrosoftAzureGuestProxyAgent".toList, tyStr),
    ("CapabilityUsed".toList, xmlEscape e.level, tyStr),
    ("Context1".toList, xmlEscape e.message, tyStr),
    ("Context2".toList, xmlEscape e.timeStamp, tyStr),
    ("Context3".toList, xmlEscape e.operationId, tyStr) ]

/-- `to_xml_event` writes exactly these, in this order -/
theorem params_eq (c : Ctx) (e : Event) : params c e = (triples c e).map fun t => paramOf t.1 t.2.1 t.2.2 := by
  simp only [params, triples, List.map_cons, List.map_nil, paramStr_eq, paramNum_eq]

/-- as for `param_eq`: the characters of a literal, read without decoding -/
theorem plain_ofList (l : Str) (h : Plain l) : Plain (String.ofList l).toList := by
  rwa [String.toList_ofList]

theorem triples_plain (c : Ctx) (e : Event) : ∀ t ∈ triples c e, Plain t.1 ∧ Plain t.2.1 ∧ Plain t.2.2 := by
  have hs : Plain tyStr := by decide
  have hn : Plain tyNum := by decide
  simp only [triples, List.forall_mem_cons, xmlEscape_plain, natStr_plain, hs, hn, and_true, List.not_mem_nil,
    false_imp_iff, implies_true]
  and_intros <;> exact plain_ofList _ (by decide)

/-- **C18(h)** the character data of an event reads back as exactly 23 parameters with the fixed names and
types and the written values (`triples`), whatever text the event carries: the text cannot end an
attribute, add a parameter or change a name -/
theorem event_reads_back (c : Ctx) (e : Event) :
    readParams 23 (params c e).flatten = some ((triples c e).map attrOfTriple) := by
  rw [params_eq]
  exact readParams_list (triples c e) (triples_plain c e)

/-- **C18(i)** and the text is carried as data: decoding a written text value gives the field back
(`unescape_escape`), e.g. the message -/
theorem message_is_data (c : Ctx) (e : Event) :
    ("Context1".toList, e.message) ∈ (triples c e).map fun t => (t.1, unescape t.2.1) := by
  refine List.mem_map.mpr ⟨("Context1".toList, xmlEscape e.message, tyStr), ?_, ?_⟩
  · simp only [triples, List.mem_cons, true_or, or_true]
  · simp only [unescape_escape]

/-! ### the outer document: CDATA sections end where the writer ended them -/

/-- every `>` in the text directly follows a `/` (`prev` = the character before the text) -/
def gtOk : Char → Str → Bool
  | _, [] => true
  | prev, c :: cs => (c != '>' || prev == '/') && gtOk c cs

/-- no `]]>` anywhere -/
def noEnd : Str → Bool
  | c1 :: c2 :: c3 :: rest => !(c1 == ']' && c2 == ']' && c3 == '>') && noEnd (c2 :: c3 :: rest)
  | _ => true

theorem gtOk_skip (p k : Char) (a rest : Str) (ha : ∀ c ∈ a, c ≠ '>') (hk : k ≠ '>') :
    gtOk p (a ++ k :: rest) = gtOk k rest := by
  induction a generalizing p with
  | nil => simp [gtOk, hk]
  | cons c cs ih =>
    obtain ⟨hc, hcs⟩ := List.forall_mem_cons.mp ha
    simp [gtOk, hc, ih c hcs]

theorem gtOk_paramOf (p : Char) (name value ty rest : Str) (hn : Plain name) (hv : Plain value) (ht : Plain ty) :
    gtOk p (paramOf name value ty ++ rest) = gtOk '>' rest := by
  have gt : isMarkup '>' = true := by decide
  simp [paramOf, pOpen, pValue, pType, pClose, gtOk, gtOk_skip _ '"' _ _ (hn.ne gt), gtOk_skip _ '"' _ _ (hv.ne gt),
    gtOk_skip _ '"' _ _ (ht.ne gt)]

theorem gtOk_params (p : Char) (l : List (Str × Str × Str)) (h : ∀ t ∈ l, Plain t.1 ∧ Plain t.2.1 ∧ Plain t.2.2) :
    gtOk p (l.map fun t => paramOf t.1 t.2.1 t.2.2).flatten = true := by
  induction l generalizing p with
  | nil => rfl
  | cons t ts ih =>
    obtain ⟨⟨hn, hv, ht⟩, hts⟩ := List.forall_mem_cons.mp h
    rw [List.map_cons, List.flatten_cons, gtOk_paramOf p _ _ _ _ hn hv ht, ih '>' hts]

theorem noEnd_of_gtOk (p : Char) (s : Str) (h : gtOk p s = true) : noEnd s = true := by
  induction s generalizing p with
  | nil => rfl
  | cons c1 t ih =>
    match t, h with
    | [], _ | [_], _ => rfl
    | c2 :: c3 :: rest, h =>
      rw [gtOk, Bool.and_eq_true] at h
      rw [noEnd, ih c1 h.2, Bool.and_true]
      -- if `c3` is `>` then `c2` is `/`, not `]`
      simp only [gtOk, Bool.and_eq_true, Bool.or_eq_true, bne_iff_ne, beq_iff_eq] at h
      rcases h.2.2.1 with h3 | h2
      · simp [h3]
      · simp [h2]

/-- **C18(j)** the character data of an event never contains `]]>`, whatever text the event carries -/
theorem no_cdata_end_in_event (c : Ctx) (e : Event) : noEnd (params c e).flatten = true := by
  rw [params_eq]
  exact noEnd_of_gtOk ' ' _ (gtOk_params ' ' (triples c e) (triples_plain c e))

theorem noEnd_tail (c : Char) (s : Str) (h : noEnd (c :: s) = true) : noEnd s = true := by
  match s, h with
  | [], _ | [_], _ => rfl
  | _ :: _ :: _, h => rw [noEnd, Bool.and_eq_true] at h; exact h.2

/-- a text without `]]>` followed by `]]>`: the reader stops exactly at the writer's terminator -/
theorem takeCdata_append (d rest : Str) (h : noEnd d = true) : takeCdata (d ++ (cdataEnd ++ rest)) = some (d, rest) := by
  induction d with
  | nil => rfl
  | cons c cs ih =>
    have hnone : stripPre cdataEnd (c :: cs ++ (cdataEnd ++ rest)) = none := by
      match cs, h with
      | [], _ | [_], _ => simp [stripPre, cdataEnd]
      | c2 :: c3 :: t, h =>
        simp [noEnd] at h
        simp [stripPre, cdataEnd]
        rintro rfl rfl rfl
        simp at h
    rw [List.cons_append] at hnone ⊢
    rw [takeCdata, hnone]
    simp only [ih (noEnd_tail c cs h)]

theorem eventClose_eq : eventClose = cdataEnd ++ eventTail := String.toList_ofList

/-- `readEvents` reads one more event when its steps succeed. Stated for arbitrary texts: on the written text
the kernel would evaluate the texts' string literals while it reduces the `match`es. -/
theorem readEvents_succ {n : Nat} {s s1 d s2 s3 rest : Str} {ds : List Str}
    (h1 : stripPre eventOpen s = some s1) (h2 : takeCdata s1 = some (d, s2))
    (h3 : stripPre eventTail s2 = some s3) (h4 : readEvents n s3 = some (ds, rest)) :
    readEvents (n + 1) s = some (d :: ds, rest) := by
  rw [readEvents]
  simp only [h1, h2, h3, h4]

theorem readEvents_all (c : Ctx) (evs : List Event) (tail : Str) :
    readEvents evs.length (evs.flatMap (eventXml c) ++ tail) = some (evs.map fun e => (params c e).flatten, tail) := by
  induction evs with
  | nil => rfl
  | cons e rest ih =>
    have hs : (e :: rest).flatMap (eventXml c) ++ tail =
        eventOpen ++ ((params c e).flatten ++ (cdataEnd ++ (eventTail ++ (rest.flatMap (eventXml c) ++ tail)))) := by
      simp only [List.flatMap_cons, eventXml, eventClose_eq, List.append_assoc]
    rw [hs]
    exact readEvents_succ (stripPre_append ..) (takeCdata_append _ _ (no_cdata_end_in_event c e))
      (stripPre_append ..) ih

/-- `readDoc` succeeds when its two steps do. `readDoc` has no equation lemma (generating it evaluates `docOpen`,
a long `String.toList`, beyond the recursion limit), and after `unfold readDoc` the kernel compares
`readDoc n s` with a `match` on `stripPre docOpen s` by the same evaluation. Unfolded before it is applied,
the function leaves nothing to compare. -/
theorem readDoc_of {n : Nat} {s s1 : Str} {ds : List Str} (h1 : stripPre docOpen s = some s1)
    (h2 : readEvents n s1 = some (ds, docClose)) : readDoc n s = some ds := by
  generalize hf : readDoc = f
  delta readDoc at hf
  subst hf
  simp only [h1, h2, if_true]

/-- **C18(k)** a consumer reading the uploaded document finds exactly one character-data section per event,
holding that event's parameters and nothing else: no event text can close a section early, open a new
element or swallow the following events -/
theorem document_reads_back (c : Ctx) (evs : List Event) :
    readDoc evs.length (toXml c evs) = some (evs.map fun e => (params c e).flatten) := by
  refine readDoc_of ?_ (readEvents_all c evs docClose)
  rw [toXml, List.append_assoc, stripPre_append]

/-- … and each section reads back as that event's 23 parameters -/
theorem document_sections_read_back (c : Ctx) (evs : List Event) :
    (readDoc evs.length (toXml c evs)).map (fun ds => ds.map (readParams 23)) =
      some (evs.map fun e => some ((triples c e).map attrOfTriple)) := by
  simp only [document_reads_back, Option.map_some, List.map_map, Function.comp_def, event_reads_back]

/-! non-vacuity -/
example : xmlEscape ['a', '<', 'b', '>', '&', '\'', '"', ']', ']', '>'] =
    ['a'] ++ eLt ++ ['b'] ++ eGt ++ eAmp ++ eApos ++ eQuot ++ [']', ']'] ++ eGt := by decide +kernel
example : unescape (eAmp ++ ['l', 't', ';']) = eLt := by decide +kernel

end Gpa.Props.C18
