/-
C14  The proxy is transparent: requests and responses are relayed unchanged.
-/
import Gpa.Lemmas.Pipeline
namespace Gpa.Props.C14
open Gpa.Pipeline Gpa.Rbac Gpa.Text Gpa.Url Gpa.Headers Gpa.Canon

variable (mac : Str → List UInt8 → Str)

/-- the client's headers other than the three proxy-owned names and the message-framing header
`transfer-encoding` (which the property lets either leg regenerate) -/
def clientPart (hs : Headers) : Headers :=
  hs.filter fun kv => kv.1 ≠ claimsHeader ∧ kv.1 ≠ dateHeader ∧ kv.1 ≠ authHeader ∧ kv.1 ≠ teHeader

theorem clientPart_remove_te (hs : Headers) : clientPart (remove teHeader hs) = clientPart hs := by
  unfold clientPart remove
  rw [List.filter_filter]
  apply List.filter_congr
  intro kv _
  by_cases h : kv.1 = teHeader <;> simp [h]

theorem clientPart_insert (n v : Str) (hs : Headers)
    (hn : n = claimsHeader ∨ n = dateHeader ∨ n = authHeader) :
    clientPart (insert n v hs) = clientPart hs := by
  unfold clientPart
  refine filter_insert_other n v hs _ fun kv hk => ?_
  rw [decide_eq_false_iff_not, hk]
  rcases hn with h | h | h <;> simp only [h, ne_eq, not_true_eq_false, false_and, and_false, not_false_eq_true]

/-- **C14(a)** for a relayed request the host receives the client's method, path and query, body
bytes unchanged, and every client header other than the three proxy-owned names unchanged (values
and relative order; `ofWire` is hyper's own parsing: names lower-cased, same-name values grouped). -/
theorem request_transparent (env : Env) (conn : Conn) (r : Req) (u : UpReq)
    (h : (handle mac env conn r).outcome = .forward u) :
    u.method = r.method ∧ u.uri = r.uri ∧ u.body = r.body ∧
    clientPart u.headers = clientPart (ofWire r.headers) := by
  obtain ⟨caller, _, _, _, rfl⟩ := handle_forward mac env conn r u h
  refine ⟨rfl, rfl, rfl, upstream_headers_ind mac env caller r
    (fun hs => clientPart hs = clientPart (ofWire r.headers)) ?_ ?_ ?_⟩
  · unfold ownedHeaders
    rw [clientPart_insert _ _ _ (.inr (.inl rfl)), clientPart_insert _ _ _ (.inl rfl)]
  · intro hs h; rw [clientPart_remove_te, h]
  · intro v hs h; rw [clientPart_insert _ _ _ (.inr (.inr rfl)), h]

/-- `u8::to_be` is the identity on a byte: the response frame mapping changes nothing -/
theorem to_be_identity (bs : List UInt8) : bs.map (fun b => b) = bs := List.map_id' bs

/-- **C14(b)** the client receives the host's status and body byte-for-byte, and the host's headers
unchanged except that exactly one marker header is present -/
theorem response_transparent (resp : Resp) :
    (relayResponse resp).status = resp.status ∧ (relayResponse resp).body = resp.body ∧
    remove authHeader (relayResponse resp).headers = remove authHeader (ofWire resp.headers) ∧
    count authHeader (relayResponse resp).headers = 1 ∧
    get? authHeader (relayResponse resp).headers = some "value".toList := by
  refine ⟨rfl, ?_, ?_, ?_, ?_⟩
  · simp [relayResponse]
  · simp only [relayResponse]; exact remove_insert_self _ _ _
  · simp only [relayResponse]; exact count_insert_self _ _ _
  · simp only [relayResponse]; exact get?_insert_self _ _ _

/-- one client connection = one upstream connection, requests handled strictly in order: the
i-th response answers the i-th request (the upstream `host` is a parameter) -/
def serveConnection (host : UpReq → Resp) (env : Env) (conn : Conn) (reqs : List Req) : List (Option Resp) :=
  reqs.map fun r =>
    match (handle mac env conn r).outcome with
    | .forward u => some (relayResponse (host u))
    | _ => none

/-- **C14(c)** pipelining: the i-th answer on a connection is the relay of the host's answer to the
i-th request — never to another request of the same connection -/
theorem pipelining_order (host : UpReq → Resp) (env : Env) (conn : Conn) (reqs : List Req) (i : Nat)
    (hi : i < reqs.length) (u : UpReq) (h : (handle mac env conn reqs[i]).outcome = .forward u) :
    (serveConnection mac host env conn reqs)[i]? = some (some (relayResponse (host u))) := by
  simp [serveConnection, hi, h]

example : clientPart (ofWire [("Accept".toList, "*/*".toList), ("X-MS-Azure-Host-Date".toList, "old".toList)])
    = [("accept".toList, "*/*".toList)] := by decide +kernel

end Gpa.Props.C14
