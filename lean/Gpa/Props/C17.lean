/-
C17  Agent upgrade is reversible: backup, install and restore reinstate files exactly.
Every file operation is a `put` on the file system (`deleteFile_fst`, `copyFile_fst`, `sys_fst`), so each
command's file system is a nest of `put`s read off at a path by `put_same` / `put_other`.
-/
import Gpa.Model.SetupFs
namespace Gpa.Props.C17
open Gpa.SetupFs

variable (runs : Content → Bool)

@[simp] theorem put_same (fs : Fs) (p : Path) (c) : put fs p c p = c := by simp [put]
@[simp] theorem put_other (fs : Fs) (p q : Path) (c) (h : q ≠ p) : put fs p c q = fs q := by simp [put, h]

theorem put_eq_self (fs : Fs) (p : Path) (c) (h : fs p = c) : put fs p c = fs := by
  funext q; unfold put; split <;> simp [*]

@[simp] theorem sys_fst (st : Fs × List Ev) (w : String) : (sys st w).1 = st.1 := rfl

theorem deleteFile_fst (st : Fs × List Ev) (p : Path) : (deleteFile st p).1 = put st.1 p none := by
  unfold deleteFile; split <;> simp [put_eq_self, *]

theorem copyFile_fst (st : Fs × List Ev) (src dst : Path) :
    (copyFile st src dst).1 = put st.1 dst ((st.1 src).or (st.1 dst)) := by
  unfold copyFile; split <;> simp [put_eq_self, *]

/-- a file system with the four system files, a complete package and no backup yet -/
structure Installed (fs : Fs) : Prop where
  exe : (fs .sysExe).isSome
  cfg : (fs .sysCfg).isSome
  ebpf : (fs .sysEbpf).isSome
  unit : (fs .sysUnit).isSome

structure PackageOk (fs : Fs) : Prop where
  exe : ∃ c, fs .pkgExe = some c ∧ runs c = true
  cfg : (fs .pkgCfg).isSome
  ebpf : (fs .pkgEbpf).isSome
  unit : (fs .pkgUnit).isSome

def isBackupPath : Path → Bool
  | .bakExe | .bakCfg | .bakEbpf | .bakUnit => true
  | _ => false

def isSystemPath : Path → Bool
  | .sysExe | .sysCfg | .sysEbpf | .sysUnit => true
  | _ => false

/-- a path outside a set of paths differs from every path in it (used with `simp +decide`, which
evaluates the membership of the concrete path) -/
theorem ne_of_pred {S : Path → Bool} {p q : Path} (hq : S q = false) (hp : S p = true) : q ≠ p :=
  fun e => by rw [e, hp] at hq; cases hq

theorem deleteBackup_fst (st : Fs × List Ev) (q : Path) :
    (deleteBackup st).1 q = if isBackupPath q then none else st.1 q := by
  simp only [deleteBackup, deleteFile_fst]
  cases q <;> rfl

theorem uninstall_fst (package : Bool) (fs : Fs) : (uninstall package fs).1 =
    if package then put (put (put (put fs .sysUnit none) .sysExe none) .sysCfg none) .sysEbpf none
    else put fs .sysUnit none := by
  cases h : fs .sysUnit <;> cases package <;> simp [uninstall, deleteFile_fst, put_eq_self, h]

theorem deploy_frame (st : Fs × List Ev) (exe cfg ebpf unit q : Path) (h : isSystemPath q = false) :
    (deploy runs st exe cfg ebpf unit).1 q = st.1 q := by
  unfold deploy
  split
  · rfl
  · split
    · rfl
    · simp only; split <;> simp +decide [copyFile_fst, ne_of_pred h]

theorem deploy_complete (st : Fs × List Ev) {exe cfg ebpf unit : Path}
    (he : ∃ c, st.1 exe = some c ∧ runs c = true) (hc : (st.1 cfg).isSome) (hb : (st.1 ebpf).isSome)
    (hu : (st.1 unit).isSome) (hcfg : isSystemPath cfg = false) (hebpf : isSystemPath ebpf = false)
    (hunit : isSystemPath unit = false) :
    deploy runs st exe cfg ebpf unit =
      (put (put (put (put st.1 .sysExe (st.1 exe)) .sysCfg (st.1 cfg)) .sysEbpf (st.1 ebpf)) .sysUnit (st.1 unit),
        st.2 ++ [.write .sysExe, .write .sysCfg, .write .sysEbpf, .write .sysUnit, .systemctl "unmask",
          .systemctl "daemon-reload", .systemctl "enable", .systemctl "start"]) := by
  obtain ⟨c, he, hr⟩ := he
  obtain ⟨cc, hc⟩ := Option.isSome_iff_exists.mp hc
  obtain ⟨cb, hb⟩ := Option.isSome_iff_exists.mp hb
  obtain ⟨cu, hu⟩ := Option.isSome_iff_exists.mp hu
  simp +decide [deploy, copyFile, sys, he, hr, hc, hb, hu, ne_of_pred hcfg, ne_of_pred hebpf, ne_of_pred hunit]

theorem restore_places_backup (fs : Fs) (del : Bool) (he : ∃ c, fs .bakExe = some c ∧ runs c = true)
    (hc : (fs .bakCfg).isSome) (hb : (fs .bakEbpf).isSome) (hu : (fs .bakUnit).isSome) :
    let fs' := (restore runs del fs).1
    fs' .sysExe = fs .bakExe ∧ fs' .sysCfg = fs .bakCfg ∧ fs' .sysEbpf = fs .bakEbpf ∧ fs' .sysUnit = fs .bakUnit := by
  have ⟨c, he', _⟩ := he
  simp only [restore, he', deploy_complete runs (sys (fs, []) "stop") he hc hb hu rfl rfl rfl]
  cases del <;> simp [deleteBackup_fst, isBackupPath, he']

/-- **C17(a)** backup; install another version; restore ⇒ the executable, configuration, eBPF
object and unit file at their system locations are what they were before the upgrade — for all file
contents (old executable able to answer `--version`, as any installed agent is) -/
theorem roundtrip (fs : Fs) (del : Bool) (hi : Installed fs) (hp : PackageOk runs fs)
    (hold : ∃ c, fs .sysExe = some c ∧ runs c = true) :
    let fs1 := (backup fs).1
    let fs2 := (install runs fs1).1
    let fs3 := (restore runs del fs2).1
    fs3 .sysExe = fs .sysExe ∧ fs3 .sysCfg = fs .sysCfg ∧ fs3 .sysEbpf = fs .sysEbpf ∧ fs3 .sysUnit = fs .sysUnit := by
  intro fs1 fs2
  -- `hp` is not used: however far the install gets, it leaves the backup folder alone (`deploy_frame`), and the backup
  -- holds the four old files (`copyFile_fst`); these are the hypotheses of `restore_places_backup` that `simpa` discharges
  simpa +decide [fs2, fs1, install, deploy_frame, backup, copyFile_fst, Option.or_of_isSome, hi.exe, hi.cfg, hi.ebpf,
    hi.unit, hold] using restore_places_backup runs fs2 del

/-- **C17(b)** install places exactly the packaged files -/
theorem install_places_exactly (fs : Fs) (hp : PackageOk runs fs) :
    let fs' := (install runs fs).1
    fs' .sysExe = fs .pkgExe ∧ fs' .sysCfg = fs .pkgCfg ∧ fs' .sysEbpf = fs .pkgEbpf ∧ fs' .sysUnit = fs .pkgUnit := by
  simp [install, deploy_complete runs (sys (fs, []) "stop") hp.exe hp.cfg hp.ebpf hp.unit rfl rfl rfl]

/-- the service is stopped before any file is replaced and started after the last one -/
theorem install_order (fs : Fs) (hp : PackageOk runs fs) :
    ∃ mid, (install runs fs).2 = .systemctl "stop" :: mid ++ [.systemctl "start"] ∧
      ∀ e ∈ mid, e ≠ .systemctl "start" ∧ e ≠ .systemctl "stop" := by
  rw [install, deploy_complete runs (sys (fs, []) "stop") hp.exe hp.cfg hp.ebpf hp.unit rfl rfl rfl]
  exact ⟨[.write .sysExe, .write .sysCfg, .write .sysEbpf, .write .sysUnit, .systemctl "unmask",
    .systemctl "daemon-reload", .systemctl "enable"], rfl, by decide +kernel⟩

/-- **C17(c)** restore without a backup changes nothing (no file, no service call) -/
theorem restore_without_backup_is_identity (fs : Fs) (del : Bool) (h : fs .bakExe = none) :
    restore runs del fs = (fs, []) := by
  simp [restore, h]

/-- **C17(d)** uninstall in package mode removes the installed files -/
theorem uninstall_package_removes (fs : Fs) :
    let fs' := (uninstall true fs).1
    fs' .sysExe = none ∧ fs' .sysCfg = none ∧ fs' .sysEbpf = none ∧ fs' .sysUnit = none := by
  simp [uninstall_fst]

theorem uninstall_service_keeps_package (fs : Fs) :
    let fs' := (uninstall false fs).1
    fs' .sysExe = fs .sysExe ∧ fs' .sysCfg = fs .sysCfg ∧ fs' .sysEbpf = fs .sysEbpf ∧ fs' .sysUnit = none := by
  simp [uninstall_fst]

/-- **C17(e)** purge removes only the backup -/
theorem purge_removes_only_backup (fs : Fs) :
    (∀ q, isBackupPath q = true → (purge fs).1 q = none) ∧ (∀ q, isBackupPath q = false → (purge fs).1 q = fs q) := by
  constructor <;> intro q hq <;> simp [purge, deleteBackup_fst, hq]

/-- **C17(f)** frame: no command alters any path outside the four system locations and the backup
folder — in particular not the package it was started from, nor anything else on the machine — for
every command and every initial state -/
theorem frame (fs : Fs) (cmd : Cmd) (q : Path) (hs : isSystemPath q = false) (hb : isBackupPath q = false) :
    (run runs fs cmd).1 q = fs q := by
  cases cmd with
  | backup =>
    simp +decide [run, backup, copyFile_fst, ne_of_pred hb]
  | install => exact deploy_frame runs _ _ _ _ _ q hs
  | restore d =>
    simp only [run, restore]
    split
    · rfl
    · split <;> simp [deleteBackup_fst, hb, deploy_frame runs _ _ _ _ _ q hs]
  | uninstall p =>
    cases p <;> simp +decide [run, uninstall_fst, ne_of_pred hs]
  | purge => simp [run, purge, deleteBackup_fst, hb]

/-! non-vacuity -/
def exFs : Fs
  | .sysExe => some 1 | .sysCfg => some 2 | .sysEbpf => some 3 | .sysUnit => some 4
  | .pkgExe => some 11 | .pkgCfg => some 12 | .pkgEbpf => some 13 | .pkgUnit => some 14
  | _ => none
example : ((install (fun _ => true) (backup exFs).1).1 .sysExe) = some 11 := by decide +kernel
example : ((restore (fun _ => true) true (install (fun _ => true) (backup exFs).1).1).1 .sysExe) = some 1 := by decide +kernel
example : ((restore (fun _ => true) true (install (fun _ => true) (backup exFs).1).1).1 .bakExe) = none := by decide +kernel

end Gpa.Props.C17
