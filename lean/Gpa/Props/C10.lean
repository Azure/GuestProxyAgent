/-
C10  The key id in a signature always names the key that produced the MAC.
-/
import Gpa.Model.SignSched
namespace Gpa.Props.C10
open Gpa.SignSched Gpa.KeyKeeper Gpa.Text

theorem step_emitted_mono (s : St) (o : Op) : ∀ e ∈ s.emitted, e ∈ (step s o).emitted := by
  intro e he
  cases o with
  | readPair i => exact List.mem_append_left _ he
  | readGuid i =>
    simp only [step]
    split
    · exact List.mem_append_left _ he
    · exact he
  | _ => exact he

structure Consistent (L : List Key) (s : St) : Prop where
  cell : ∀ k, s.cell = some k → k ∈ L
  emitted : ∀ e ∈ s.emitted, e.2 = none ∨ ∃ k ∈ L, e.2 = some (k.guid, k.key)

theorem consistent_step {L : List Key} {s : St} (h : Consistent L s) {o : Op}
    (ho : ∀ i, o ≠ .readGuid i) (hL : ∀ k, setKey? o = some k → k ∈ L) : Consistent L (step s o) := by
  cases o with
  | set k => exact ⟨hL, h.emitted⟩
  | clear => exact ⟨nofun, h.emitted⟩
  | readPair i =>
    refine ⟨h.cell, fun e he => ?_⟩
    rcases List.mem_append.1 he with he | he
    · exact h.emitted e he
    · obtain rfl := List.mem_singleton.1 he
      cases hc : s.cell with
      | none => exact .inl rfl
      | some k => exact .inr ⟨k, h.cell k hc, rfl⟩
  | readValue i => exact ⟨h.cell, h.emitted⟩
  | readGuid i => exact absurd rfl (ho i)

theorem consistent_run {L : List Key} (ops : List Op) {s : St} (h : Consistent L s)
    (hops : ∀ o ∈ ops, (∀ i, o ≠ .readGuid i) ∧ ∀ k, setKey? o = some k → k ∈ L) :
    Consistent L (run s ops) := by
  induction ops generalizing s with
  | nil => exact h
  | cons o ops ih =>
    have ho := hops o List.mem_cons_self
    exact ih (consistent_step h ho.1 ho.2) fun o' ho' => hops o' (List.mem_cons_of_mem o ho')

/-- **C10** when every signer reads the latched key in a single actor message, then under EVERY
interleaving of any number of signers with key rotation, clearing and re-latching, each emitted
pair is `(k.guid, k.key)` for one key `k` that was latched at some instant of the run — or the
request goes out unsigned; never the id of one key with the secret of another. -/
theorem pair_consistent (init : Option Key) (ops : List Op) (h : onlyPairReads ops = true) :
    ∀ e ∈ (run (St.init init) ops).emitted,
      e.2 = none ∨ ∃ k ∈ everLatched init ops, e.2 = some (k.guid, k.key) := by
  have hinit : Consistent (everLatched init ops) (St.init init) :=
    ⟨fun k hk => List.mem_append_left _ (Option.mem_toList.2 hk), fun _ he => absurd he List.not_mem_nil⟩
  refine (consistent_run ops hinit fun o ho => ⟨fun i hi => ?_, fun k hk => ?_⟩).emitted
  · subst hi; cases List.all_eq_true.1 h _ ho
  · exact List.mem_append_right _ (List.mem_filterMap.2 ⟨o, ho, hk⟩)

/-- **negative witness (F5)** with the two-message program (value in one message, id in another) a
rotation that lands between the two reads signs with K1's secret under K2's id -/
def K1 : Key := { guid := "id-1".toList, key := "secret-1".toList }
def K2 : Key := { guid := "id-2".toList, key := "secret-2".toList }
theorem two_reads_can_mismatch :
    (run (St.init (some K1)) [.readValue 0, .set K2, .readGuid 0]).emitted = [(0, some (K2.guid, K1.key))] := by decide +kernel

/-- the same schedule with the single-message program is consistent -/
example : (run (St.init (some K1)) [.readPair 0, .set K2]).emitted = [(0, some (K1.guid, K1.key))] := by decide +kernel
example : (run (St.init (some K1)) [.set K2, .readPair 0]).emitted = [(0, some (K2.guid, K2.key))] := by decide +kernel
example : (run (St.init (some K1)) [.clear, .readPair 0]).emitted = [(0, none)] := by decide +kernel

end Gpa.Props.C10
