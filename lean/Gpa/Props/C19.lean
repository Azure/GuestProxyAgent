/-
C19  Disk usage by logs, events and rule dumps stays within configured bounds.
-/
import Gpa.Model.Logs
namespace Gpa.Props.C19
open Gpa.Logs

/-- the loop entered with `count`, when `j` more files fit under `fileCount`: `j + 1` files go, oldest first -/
theorem removeLoop_eq_drop {fileCount count j : Nat} (h : count + j = fileCount) (files : List Nat) :
    removeLoop fileCount count files = files.drop (j + 1) := by
  induction files generalizing count j with
  | nil => simp [removeLoop]
  | cons f rest ih =>
    rw [removeLoop]
    cases j with
    | zero => rw [if_pos (by omega)]; rfl
    | succ j => rw [if_neg (by omega), ih (show count + 1 + j = fileCount by omega)]; rfl

theorem prune_eq_drop (maxCount : Nat) (files : List Nat) :
    prune maxCount files =
      files.drop (if files.length ≥ maxCount then files.length - maxCount + 1 else 0) := by
  unfold prune; split
  · exact removeLoop_eq_drop (by omega) files
  · rfl

theorem prune_length_lt (maxCount : Nat) (files : List Nat) (hm : 1 ≤ maxCount) :
    (prune maxCount files).length < maxCount := by
  rw [prune_eq_drop, List.length_drop]; split <;> omega

/-- **C19(d)** the oldest files go first: what is kept is a suffix of the (oldest-first) list -/
theorem oldest_removed_first (maxCount : Nat) (files : List Nat) (hm : 1 ≤ maxCount) :
    ∃ k, prune maxCount files = files.drop k :=
  ⟨_, prune_eq_drop maxCount files⟩

/-- invariant of a rolling log's directory: fewer archives than the configured count (so that,
with the current file, at most `maxCount` files exist). It holds for the empty directory and —
being preserved by every write — for whatever an earlier run with the same settings left. -/
def Inv (cfg : Settings) (s : Rolling) : Prop := s.archives.length < cfg.maxCount

theorem inv_empty (cfg : Settings) (hm : 1 ≤ cfg.maxCount) : Inv cfg { cur := none, archives := [] } := by
  simp [Inv]; omega

theorem rollIfNeeded_inv (cfg : Settings) (s : Rolling) (hm : 1 ≤ cfg.maxCount) (h : Inv cfg s) :
    Inv cfg (rollIfNeeded cfg s) := by
  unfold rollIfNeeded Inv at *
  simp only
  split
  · exact prune_length_lt _ _ hm
  · exact h

theorem rollIfNeeded_size (cfg : Settings) (s : Rolling) (hs : 1 ≤ cfg.maxSize) :
    (rollIfNeeded cfg s).cur.getD 0 < cfg.maxSize := by
  unfold rollIfNeeded
  simp only
  split <;> simp <;> omega

theorem write_inv (cfg : Settings) (s : Rolling) (bytes : Nat) (hm : 1 ≤ cfg.maxCount) (h : Inv cfg s) :
    Inv cfg (write cfg s bytes) := by
  have := rollIfNeeded_inv cfg s hm h
  simpa [write, Inv] using this

/-- **C19(a)** after any sequence of writes of any sizes, starting from an empty directory or from
the files an earlier run with the same settings left, the number of files kept for the log never
exceeds its configured count -/
theorem files_le_count (cfg : Settings) (s : Rolling) (ws : List Nat) (hm : 1 ≤ cfg.maxCount) (h : Inv cfg s) :
    Inv cfg (ws.foldl (write cfg) s) ∧ fileCount (ws.foldl (write cfg) s) ≤ cfg.maxCount := by
  have hinv : Inv cfg (ws.foldl (write cfg) s) := by
    induction ws generalizing s with
    | nil => exact h
    | cons w ws ih => exact ih _ (write_inv cfg s w hm h)
  refine ⟨hinv, ?_⟩
  unfold fileCount Inv at *
  split <;> omega

/-- **C19(b)** no log file grows beyond its size limit by more than one write: right after a write
of `bytes` bytes the current file is smaller than `maxSize + bytes`, and archived files keep the size
they had when they were rolled -/
theorem size_lt_max_plus_last_write (cfg : Settings) (s : Rolling) (bytes : Nat) (hs : 1 ≤ cfg.maxSize) :
    (write cfg s bytes).cur.getD 0 < cfg.maxSize + bytes := by
  have := rollIfNeeded_size cfg s hs
  simp only [write, Option.getD_some]
  omega

/-- every archived file was, when archived, a current file — so it too is below `maxSize + (its last write)`;
stated as: a roll moves exactly the current size into the archive list -/
theorem archive_is_old_current (cfg : Settings) (s : Rolling) (h : s.cur.getD 0 ≥ cfg.maxSize) (hm : 1 ≤ cfg.maxCount) :
    ∃ k, (rollIfNeeded cfg s).archives = (s.archives ++ [s.cur.getD 0]).drop k := by
  rw [rollIfNeeded, if_pos h]
  exact oldest_removed_first _ _ hm

/-- **C19(c)** the event directory never holds more files than its cap: flushes add a file only
below the cap (new events are dropped otherwise), the reader only removes files -/
inductive EvOp where
  | flush | readerRemoves (k : Nat)

def evStep (cap : Nat) (n : Nat) : EvOp → Nat
  | .flush => flushEvents cap n
  | .readerRemoves k => n - k

theorem events_le_cap (cap : Nat) (n : Nat) (ops : List EvOp) (h : n ≤ cap) : ops.foldl (evStep cap) n ≤ cap := by
  induction ops generalizing n with
  | nil => exact h
  | cons op ops ih =>
    apply ih
    cases op with
    | flush => simp only [evStep, flushEvents]; split <;> omega
    | readerRemoves k => simp only [evStep]; omega

theorem writeDump_length_le (maxCount : Nat) (dumps : List Nat) (newId : Nat) (hm : 1 ≤ maxCount) :
    (writeDump maxCount dumps newId).length ≤ maxCount := by
  have := prune_length_lt maxCount dumps hm
  simp only [writeDump, List.length_append, List.length_singleton]; omega

/-- **C19(e)** at most the configured number of rule dumps is kept, the oldest being removed first -/
theorem dumps_le_max (maxCount : Nat) (dumps : List Nat) (ids : List Nat) (hm : 1 ≤ maxCount) :
    (ids.foldl (writeDump maxCount) dumps).length ≤ maxCount ∨ ids = [] := by
  by_cases h : ids = []
  · exact .inr h
  · -- the last write alone brings the directory within the limit
    rw [← List.dropLast_concat_getLast h, List.foldl_append]
    exact .inl (writeDump_length_le _ _ _ hm)

/-- **C19(e), at every moment** a directory within its limit stays within it through every intermediate listing of a
`write_all` (what a concurrent reader, or a crash between two of its file operations, finds); one that starts above the
limit (the setting was lowered) never grows -/
theorem dump_peak_le_max (maxCount : Nat) (dumps : List Nat) (newId : Nat) (hm : 1 ≤ maxCount) :
    ∀ l ∈ dumpTrace maxCount dumps newId, l.length ≤ max dumps.length maxCount := by
  intro l hl
  simp only [dumpTrace, List.mem_append, List.mem_map, List.mem_range, List.mem_singleton] at hl
  rcases hl with ⟨j, _, rfl⟩ | rfl
  · exact Nat.le_trans (List.drop_sublist j dumps).length_le (Nat.le_max_left ..)
  · exact Nat.le_trans (writeDump_length_le maxCount dumps newId hm) (Nat.le_max_right ..)

/-- the last listing of the trace is what `writeDump` leaves -/
theorem dumpTrace_ends_in_writeDump (maxCount : Nat) (dumps : List Nat) (newId : Nat) :
    (dumpTrace maxCount dumps newId).getLast? = some (writeDump maxCount dumps newId) := by
  simp [dumpTrace, writeDump]

/-- negative witness: writing the new dump first and pruning afterwards passes through one dump too many -/
theorem write_then_prune_exceeds : ([1, 2] ++ [3] : List Nat).length > 2 ∧
    ∀ l ∈ dumpTrace 2 [1, 2] 3, l.length ≤ 2 := by decide +kernel

theorem dump_removes_oldest (maxCount : Nat) (dumps : List Nat) (newId : Nat) (hm : 1 ≤ maxCount) :
    ∃ k, writeDump maxCount dumps newId = dumps.drop k ++ [newId] := by
  obtain ⟨k, hk⟩ := oldest_removed_first maxCount dumps hm
  exact ⟨k, by rw [writeDump, hk]⟩

/-! non-vacuity: a directory at the limit rolls and stays at the limit -/
example : fileCount (write ⟨10, 3⟩ ⟨some 12, [10, 11]⟩ 5) = 3 := by decide +kernel
example : (write ⟨10, 3⟩ ⟨some 12, [10, 11]⟩ 5) = ⟨some 5, [11, 12]⟩ := by decide +kernel
example : writeDump 3 [1, 2, 3] 4 = [2, 3, 4] := by decide +kernel

end Gpa.Props.C19
