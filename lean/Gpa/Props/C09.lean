/-
C09  Agent state converges to the host's latest secure-channel status.
-/
import Gpa.Model.KeyKeeper
namespace Gpa.Props.C09
open Gpa.KeyKeeper Gpa.Text

/-- **C09(a)** a poll whose status request fails, or returns an invalid document, changes nothing -/
theorem failed_status_is_noop (a : Agent) (fs : KeyDir) (ans : Answers)
    (h : ans.status = .failed ∨ ∃ d, ans.status = .doc d ∧ d.valid = false) :
    poll a fs ans = (a, fs, [], false) := by
  rcases h with h | ⟨d, h, hv⟩
  · simp [poll, h]
  · simp [poll, h, hv]

/-- the host contract under which rule *content* is determined by the latest document: an endpoint
whose id the agent already holds carries the item the agent already holds -/
def Consistent (a : Agent) (d : Doc) : Prop :=
  (a.wsId = idOf (itemOf d d.ws) → a.wsRules = itemOf d d.ws) ∧
  (a.imdsId = idOf (itemOf d d.imds) → a.imdsRules = itemOf d d.imds) ∧
  (a.hostgaId = idOf (itemOf d d.hostga) → a.hostgaRules = itemOf d d.hostga)

theorem casRules_id (curId : Str) (cur newItem : Option RuleItem) : (casRules curId cur newItem).1 = idOf newItem := by
  unfold casRules; split
  · rename_i h; exact h
  · rfl

theorem casRules_rules (curId : Str) (cur newItem : Option RuleItem) (h : curId = idOf newItem → cur = newItem) :
    (casRules curId cur newItem).2 = newItem := by
  unfold casRules; split
  · rename_i he; exact h he
  · rfl

theorem finishPoll_eq (a : Agent) (d : Doc) :
    finishPoll a d =
      ({ a with chan := d.state, key := if a.chan ≠ d.state ∧ d.state = sDisabled then none else a.key },
       if a.chan = d.state then [] else
         [.policy "wireserver" (d.wsMode ≠ sDisabled), .policy "imds" (d.imdsMode ≠ sDisabled), .policy "hostga" (d.hostgaMode ≠ sDisabled)]) := by
  unfold finishPoll
  by_cases h : a.chan = d.state
  · cases a; simp_all
  · by_cases hd : d.state = sDisabled
    · simp [hd, hd ▸ h]
    · simp [h, hd]

theorem needKey_eq_false (a : Agent) (d : Doc) :
    needKey a d = false ↔ d.state = sDisabled ∨ (d.keyGuid = a.key.map (·.guid) ∧ d.keyGuid.isSome) := by
  unfold needKey
  cases d.keyGuid <;> simp [Decidable.or_iff_not_imp_left]

theorem keyStage_noNeed (a : Agent) (fs : KeyDir) (ans : Answers) (d : Doc) (h : needKey a d = false) :
    keyStage a fs ans d = (some a.key, fs, []) := by
  unfold keyStage; simp [h]

theorem keyStage_some {a : Agent} {fs : KeyDir} {ans : Answers} {d : Doc} {key : Option Key}
    (h : (keyStage a fs ans d).1 = some key) :
    (needKey a d = false ∧ key = a.key) ∨
    (∃ g k, d.keyGuid = some g ∧ fetchKey fs g = some k ∧ key = some k) ∨
    (∃ k, ans.acquire = some k ∧ ans.attestOk = true ∧ key = some k ∧ fetchKey (keyStage a fs ans d).2.1 k.guid = some k) := by
  revert h
  fun_cases keyStage a fs ans d <;> intro h
  case case1 hn => exact .inl ⟨by simpa using hn, (Option.some.inj h).symm⟩  -- no key needed
  case case2 k hl =>  -- the key file named by the document is there
    obtain ⟨g, hg, hf⟩ := Option.bind_eq_some_iff.mp hl
    exact .inr (.inl ⟨g, k, hg, hf, (Option.some.inj h).symm⟩)
  case case7 k hacq _ _ hchk hat =>  -- acquired, stored, read back, attested
    exact .inr (.inr ⟨k, hacq, by simpa using hat, (Option.some.inj h).symm, by simpa using hchk⟩)
  all_goals cases h  -- the four branches that give up return no key

theorem keyStage_no_policy (a : Agent) (fs : KeyDir) (ans : Answers) (d : Doc) :
    ∀ o ∈ (keyStage a fs ans d).2.2, ∀ e b, o ≠ .policy e b := by
  fun_cases keyStage a fs ans d
  -- the outputs are `[acquired, attested]` after a full latch, `[acquired]` where it stopped after the acquire, else none
  case case7 => exact List.forall_mem_cons.mpr ⟨fun _ _ => nofun, List.forall_mem_singleton.mpr fun _ _ => nofun⟩
  case case4 | case5 | case6 => exact List.forall_mem_singleton.mpr fun _ _ => nofun
  all_goals exact List.forall_mem_nil _

theorem poll_cases (a : Agent) (fs : KeyDir) (ans : Answers) :
    ((poll a fs ans).2.2.2 = false ∧ (poll a fs ans).1.chan = a.chan ∧ (poll a fs ans).1.key = a.key) ∨
    ∃ d key, ans.status = .doc d ∧ (keyStage a fs ans d).1 = some key ∧
      poll a fs ans = ((finishPoll { applyRules a d with key := key } d).1, (keyStage a fs ans d).2.1,
        (keyStage a fs ans d).2.2 ++ (finishPoll { applyRules a d with key := key } d).2, true) := by
  fun_cases poll a fs ans
  case case4 d hs _ key fs' outs hk => exact .inr ⟨d, key, hs, by rw [hk], by rw [hk]⟩
  all_goals exact .inl ⟨rfl, rfl, rfl⟩

/-- **C09(b)** convergence: whatever the prior history left in the agent, an iteration that completes
with document `d` leaves the rule ids, the channel state and — under the host contract — the rules
of every endpoint exactly as `d` says -/
theorem convergence_rules_and_state (a : Agent) (fs : KeyDir) (ans : Answers) (d : Doc)
    (hs : ans.status = .doc d) (hc : (poll a fs ans).2.2.2 = true) :
    let a' := (poll a fs ans).1
    a'.wsId = idOf (itemOf d d.ws) ∧ a'.imdsId = idOf (itemOf d d.imds) ∧ a'.hostgaId = idOf (itemOf d d.hostga) ∧
    a'.chan = d.state ∧
    (Consistent a d → a'.wsRules = itemOf d d.ws ∧ a'.imdsRules = itemOf d d.imds ∧ a'.hostgaRules = itemOf d d.hostga) := by
  obtain ⟨hf, _⟩ | ⟨d', key, hs', _, hp⟩ := poll_cases a fs ans
  · cases hf.symm.trans hc
  cases hs.symm.trans hs'
  rw [hp, finishPoll_eq]
  exact ⟨casRules_id .., casRules_id .., casRules_id .., rfl,
    fun hcons => ⟨casRules_rules _ _ _ hcons.1, casRules_rules _ _ _ hcons.2.1, casRules_rules _ _ _ hcons.2.2⟩⟩

/-- **C09(c)** whenever the reported channel state changes, each endpoint is intercepted exactly
when its mode is not disabled; when it does not change no policy update is made -/
theorem convergence_policy (a : Agent) (fs : KeyDir) (ans : Answers) (d : Doc)
    (hs : ans.status = .doc d) (hc : (poll a fs ans).2.2.2 = true) :
    ((poll a fs ans).2.2.1.filter fun o => match o with | .policy _ _ => true | _ => false) =
      if a.chan = d.state then [] else
        [Out.policy "wireserver" (d.wsMode ≠ sDisabled), .policy "imds" (d.imdsMode ≠ sDisabled), .policy "hostga" (d.hostgaMode ≠ sDisabled)] := by
  obtain ⟨hf, _⟩ | ⟨d', key, hs', _, hp⟩ := poll_cases a fs ans
  · cases hf.symm.trans hc
  cases hs.symm.trans hs'
  have : (keyStage a fs ans d).2.2.filter (fun o => match o with | .policy _ _ => true | _ => false) = [] := by
    rw [List.filter_eq_nil_iff]
    intro o ho
    cases o with
    | policy e b => exact absurd rfl (keyStage_no_policy a fs ans d _ ho e b)
    | _ => nofun
  rw [hp, finishPoll_eq]
  show List.filter _ (_ ++ if a.chan = d.state then [] else _) = _
  rw [List.filter_append, this]
  split <;> rfl

/-- the invariant: a stored channel state `disabled` means no key is held -/
def NoKeyWhenDisabled (a : Agent) : Prop := a.chan = sDisabled → a.key = none

theorem inv_init : NoKeyWhenDisabled Agent.init := fun h => absurd h (by decide +kernel)

/-- **C09(d)** preserved by every iteration — completed, failed, or abandoned at any step — for
every host answer and every state of the key directory -/
theorem inv_poll (a : Agent) (fs : KeyDir) (ans : Answers) (h : NoKeyWhenDisabled a) :
    NoKeyWhenDisabled (poll a fs ans).1 := by
  obtain ⟨_, h1, h2⟩ | ⟨d, key, _, hk, hp⟩ := poll_cases a fs ans
  · intro hdis
    rw [h2]; exact h (h1 ▸ hdis)
  · rw [hp, finishPoll_eq]
    intro (hdis : d.state = sDisabled)
    show (if a.chan ≠ d.state ∧ d.state = sDisabled then none else key) = none
    split
    · rfl
    · next hch =>
      -- channel state unchanged and disabled: no key was needed, the key is the old one, and there was none
      have hch : a.chan = sDisabled := Decidable.byContradiction fun hne => hch ⟨hdis ▸ hne, hdis⟩
      rw [keyStage_noNeed a fs ans d ((needKey_eq_false a d).mpr (.inl hdis))] at hk
      cases hk
      exact h hch

theorem inv_history (hist : List (KeyDir × Answers)) (a : Agent) (h : NoKeyWhenDisabled a) :
    NoKeyWhenDisabled (hist.foldl (fun a x => (poll a x.1 x.2).1) a) := by
  induction hist generalizing a with
  | nil => exact h
  | cons x xs ih => exact ih _ (inv_poll a x.1 x.2 h)

/-- **C09(e)** the key after a completed iteration: none when the channel is reported disabled;
otherwise the key already held (when the document names it), the local key stored under the guid
the host names as latched, or the key just acquired, stored, read back and attested -/
theorem convergence_key (a : Agent) (fs : KeyDir) (ans : Answers) (d : Doc) (hinv : NoKeyWhenDisabled a)
    (hs : ans.status = .doc d) (hc : (poll a fs ans).2.2.2 = true) :
    let a' := (poll a fs ans).1
    (d.state = sDisabled → a'.key = none) ∧
    (d.state ≠ sDisabled →
      (a'.key = a.key ∧ d.keyGuid = a.key.map (·.guid) ∧ d.keyGuid.isSome) ∨
      (∃ g k, d.keyGuid = some g ∧ fetchKey fs g = some k ∧ a'.key = some k) ∨
      (∃ k, ans.acquire = some k ∧ a'.key = some k ∧ fetchKey (poll a fs ans).2.1 k.guid = some k)) := by
  have hI := inv_poll a fs ans hinv
  obtain ⟨hf, _⟩ | ⟨d', key, hs', hk, hp⟩ := poll_cases a fs ans
  · cases hf.symm.trans hc
  cases hs.symm.trans hs'
  rw [hp, finishPoll_eq] at hI ⊢
  refine ⟨fun hd => hI hd, fun hne => ?_⟩
  dsimp only
  rw [if_neg fun h => hne h.2]
  rcases keyStage_some hk with ⟨hn, rfl⟩ | ⟨g, k, hg, hf, rfl⟩ | ⟨k, hacq, _, rfl, hchk⟩
  · exact .inl ⟨rfl, ((needKey_eq_false a d).mp hn).resolve_left hne⟩
  · exact .inr (.inl ⟨g, k, hg, hf, rfl⟩)
  · exact .inr (.inr ⟨k, hacq, rfl, hchk⟩)

/-! non-vacuity -/
def docEnabled : Doc := { schemeOk := true, version := v1, secureChannelState := some "WireServer".toList, secureChannelEnabled := none,
                          keyGuid := none, ws := none, imds := none, hostga := none, hasRules := false }
def k1 : Key := { guid := "g1".toList, key := "aa".toList }
example : (poll Agent.init ⟨[], []⟩ ⟨.doc docEnabled, some k1, true, true⟩).2.2.2 = true := by decide +kernel
example : (poll Agent.init ⟨[], []⟩ ⟨.doc docEnabled, some k1, true, true⟩).1.key = some k1 := by decide +kernel
example : (poll Agent.init ⟨[], []⟩ ⟨.doc docEnabled, some k1, true, false⟩).1.key = none := by decide +kernel

/-! ### where the key in memory can come from -/

theorem applyRules_key (a : Agent) (d : Doc) : (applyRules a d).key = a.key := rfl

/-- **C09(f)** provenance of the key: after any poll the agent holds the key it held before, or none, or the local
key the status document names, or the key the host issued in this very poll AND acknowledged the attestation of —
never a key whose attestation failed -/
theorem key_provenance (a : Agent) (fs : KeyDir) (ans : Answers) :
    (poll a fs ans).1.key = a.key ∨ (poll a fs ans).1.key = none ∨
    (∃ d g k, ans.status = .doc d ∧ d.keyGuid = some g ∧ fetchKey fs g = some k ∧ (poll a fs ans).1.key = some k) ∨
    (∃ k, ans.acquire = some k ∧ ans.attestOk = true ∧ (poll a fs ans).1.key = some k) := by
  obtain ⟨_, _, h2⟩ | ⟨d, key, hs, hk, hp⟩ := poll_cases a fs ans
  · exact .inl h2
  rw [hp, finishPoll_eq]
  dsimp only
  split
  · exact .inr (.inl rfl)
  · rcases keyStage_some hk with ⟨_, rfl⟩ | ⟨g, k, hg, hf, rfl⟩ | ⟨k, hacq, hatt, rfl, _⟩
    · exact .inl rfl
    · exact .inr (.inr (.inl ⟨d, g, k, hs, hg, hf, rfl⟩))
    · exact .inr (.inr (.inr ⟨k, hacq, hatt, rfl⟩))

/-! ### a rule change at the level of actor messages

`applyRules` is one step in the model; the source makes it with separate messages to the state actor
(`Get…RuleId`, `Set…RuleId`, `Set…Rules`), and a request can read the rules between any two of them. -/
section ruleMessages

/-- the messages together are the compare-and-set of the model -/
theorem rule_change_refines_cas (c : RuleCell) (new : Option RuleItem) :
    (changeProgram c new).foldl rstep c = ⟨(casRules c.id c.rules new).1, (casRules c.id c.rules new).2⟩ := by
  unfold changeProgram casRules
  split <;> rfl

/-- **C09 / C01 (rule change in progress)** wherever a request's read falls among the messages of a rule
change, it finds the rules that were in force before or the new ones — never a state without rules when
both documents carry some -/
theorem reader_between_messages_sees_old_or_new (c : RuleCell) (new : Option RuleItem) (k : Nat) :
    (((changeProgram c new).take k).foldl rstep c).rules = c.rules ∨
    (((changeProgram c new).take k).foldl rstep c).rules = new := by
  unfold changeProgram
  split
  · left; simp
  · match k with
    | 0 => left; rfl
    | 1 => left; rfl
    | k + 2 => right; simp [List.take, rstep]

/-- negative witness: an actor that forgets the rules when the id is set leaves a window without rules -/
theorem dropping_rules_at_set_id_opens_a_window :
    let old : RuleItem := ⟨"a".toList, sEnforce, 1⟩
    let new : RuleItem := ⟨"b".toList, sEnforce, 2⟩
    let dropStep (c : RuleCell) : RMsg → RuleCell
      | .setId i => { id := i, rules := none }
      | .setRules r => { c with rules := r }
    (((changeProgram ⟨old.id, some old⟩ (some new)).take 1).foldl dropStep ⟨old.id, some old⟩).rules = none ∧
    (((changeProgram ⟨old.id, some old⟩ (some new)).take 1).foldl rstep ⟨old.id, some old⟩).rules = some old := by
  decide +kernel

end ruleMessages

end Gpa.Props.C09
