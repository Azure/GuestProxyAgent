/-
C20  Extension health has hysteresis: Error only after sustained failure.
Specification constants are the ones in the property text (20, 120); the model is instantiated
with the constants regenerated from /repo (Gpa.Facts) — a changed constant breaks an obligation.
-/
import Gpa.Model.Health
import Gpa.Generated.Facts

namespace Gpa.Props.C20
open Gpa.Health

/-- specification constants from the property text -/
def specThreshold : Nat := 20
def specRepeat : Nat := 120

/-- the agent's initial health state with the constants found in the source -/
def init : StatusState := StatusState.new Gpa.Facts.healthErrorThreshold Gpa.Facts.healthMaxConsecutive

/-! obligations on generated facts -/
theorem facts_threshold : Gpa.Facts.healthErrorThreshold = specThreshold := by decide
theorem facts_saturation :
    specThreshold ≤ Gpa.Facts.healthMaxConsecutive ∧ Gpa.Facts.healthMaxConsecutive < 2^32 - 1 := by decide
theorem facts_repeat : Gpa.Facts.stateNoteMax = specRepeat := by decide

theorem le_satInc (c m : Nat) : c ≤ satInc c m := by grind [satInc]

theorem satInc_le_succ (c m : Nat) : satInc c m ≤ c + 1 := by grind [satInc]

theorem satInc_pos (c : Nat) {m : Nat} (h : 1 ≤ m) : 1 ≤ satInc c m := by grind [satInc]

theorem satInc_min (n m : Nat) : satInc (min n m) m = min (n + 1) m := by grind [satInc]

theorem update_true (s : StatusState) : s.update true =
    { s with succ := satInc s.succ s.maxCount, fail := 0,
             cur := nextCur s.cur (satInc s.succ s.maxCount) 0 s.thr } := rfl

theorem update_false (s : StatusState) : s.update false =
    { s with succ := 0, fail := satInc s.fail s.maxCount,
             cur := nextCur s.cur 0 (satInc s.fail s.maxCount) s.thr } := rfl

theorem nextCur_eq_error {cur : St} {succ fail thr : Nat} :
    nextCur cur succ fail thr = .error ↔
      succ = 0 ∧ (cur = .error ∨ cur = .transitioning ∧ thr ≤ fail) := by
  unfold nextCur; grind

theorem nextCur_success {cur : St} {succ thr : Nat} (h : 1 ≤ succ) :
    nextCur cur succ 0 thr =
      match cur with | .success | .transitioning => .success | .error | .other => .transitioning := by
  cases cur <;> simp [nextCur, h]

theorem run_snoc (s : StatusState) (obs : List Bool) (o : Bool) :
    s.run (obs ++ [o]) = (s.run obs).update o := by
  simp [StatusState.run, List.foldl_append]

/-- **C20(c)** one successful observation always moves the report away from Error — for *every*
state, reachable or not (so also after more than 10000 failures). -/
theorem success_leaves_error (s : StatusState) (hm : 1 ≤ s.maxCount) :
    (s.update true).cur ≠ .error := by
  simp only [update_true, nextCur_success (satInc_pos _ hm)]
  cases s.cur <;> simp

/-- **C20(d)** two consecutive successes always yield Success — for every state. -/
theorem two_successes_success (s : StatusState) (hm : 1 ≤ s.maxCount) :
    ((s.update true).update true).cur = .success := by
  simp only [update_true, nextCur_success (satInc_pos _ hm)]
  cases s.cur <;> rfl

theorem replicate_suffix_replicate {α} (a : α) {i j : Nat} (h : i ≤ j) :
    List.replicate i a <:+ List.replicate j a :=
  List.suffix_replicate_iff.2 ⟨by simpa using h, by simp⟩

/-- Invariant carried along any run, `obs` being the history so far (newest last): parameters never change, the last
`fail` observations all failed (the counter saturates, so more may have), Error implies `fail ≥ t`. -/
structure Inv (t : Nat) (s : StatusState) (obs : List Bool) : Prop where
  thr : s.thr = t
  mx : 1 ≤ s.maxCount
  fail : List.replicate s.fail false <:+ obs
  err : s.cur = .error → t ≤ s.fail

theorem inv_step {t s obs} (h : Inv t s obs) (o : Bool) : Inv t (s.update o) (obs ++ [o]) := by
  cases o
  · refine ⟨h.thr, h.mx, ?_, fun he => ?_⟩
    · refine (replicate_suffix_replicate false (satInc_le_succ s.fail s.maxCount)).trans ?_
      rw [List.replicate_succ']; exact List.suffix_append_self_iff.2 h.fail
    · rcases (nextCur_eq_error.1 he).2 with hc | ⟨_, hc⟩
      · exact Nat.le_trans (h.err hc) (le_satInc s.fail s.maxCount)
      · exact h.thr ▸ hc
  · exact ⟨h.thr, h.mx, List.nil_suffix, fun he => absurd he (success_leaves_error s h.mx)⟩

theorem inv_run_from {t s pre} (h : Inv t s pre) (obs : List Bool) : Inv t (s.run obs) (pre ++ obs) := by
  induction obs generalizing s pre with
  | nil => simpa [StatusState.run] using h
  | cons o os ih => simpa [StatusState.run] using ih (inv_step h o)

theorem inv_run (obs : List Bool) : Inv Gpa.Facts.healthErrorThreshold (init.run obs) obs := by
  have h0 : Inv Gpa.Facts.healthErrorThreshold init [] := ⟨rfl, by decide, List.nil_suffix, nofun⟩
  simpa using inv_run_from h0 obs

/-- **C20(a)** Error is reported only when the most recent `20` (or more) observations all failed —
for every finite observation history, of any length (runs beyond the saturation point included). -/
theorem error_needs_20_failures (obs : List Bool) :
    (init.run obs).cur = .error → ∃ pre, obs = pre ++ List.replicate specThreshold false := fun he =>
  have h := inv_run obs
  List.suffix_iff_exists_eq_append.1
    ((replicate_suffix_replicate false (facts_threshold ▸ h.err he)).trans h.fail)

/-- reachable states satisfy the side condition of (c) and (d) -/
theorem reachable_maxCount (obs : List Bool) : 1 ≤ (init.run obs).maxCount := (inv_run obs).mx

/-- **C20(b)** never Error directly after a success: neither in the report that follows a successful
observation, nor in the report that follows a `Success` report. -/
theorem never_error_after_success (obs : List Bool) :
    (init.run (obs ++ [true])).cur ≠ .error := by
  rw [run_snoc]; exact success_leaves_error _ (reachable_maxCount obs)

theorem never_error_right_after_success_report (obs : List Bool) (o : Bool) :
    (init.run obs).cur = .success → (init.run (obs ++ [o])).cur ≠ .error := by
  intro hs he
  rw [run_snoc] at he
  have := (nextCur_eq_error.1 he).2
  simp [hs] at this

/-- a fresh state under `n` failures: Transitioning until the counter reaches the threshold, Error from then on (never,
if the counter saturates below the threshold) -/
theorem run_failures (thr mx n : Nat) (h0 : 0 < thr) :
    (StatusState.new thr mx).run (List.replicate n false) =
      { cur := if thr ≤ min n mx then .error else .transitioning, fail := min n mx, succ := 0,
        thr := thr, maxCount := mx } := by
  induction n with
  | zero => simp [StatusState.run, StatusState.new]; omega
  | succ n ih =>
    rw [List.replicate_succ', run_snoc, ih, update_false]
    simp only [satInc_min]
    by_cases hn : thr ≤ min n mx
    · have : thr ≤ min (n + 1) mx := by omega
      simp [nextCur, hn, this]
    · simp [nextCur, hn]

/-- **C20(e)** saturation is harmless: a run of `n ≥ 20` failures from the start — in particular
`n > 10000`, beyond the counters' saturation point — is reported as Error; (c) and (d) then give
Transitioning after one success and Success after two, for any `n`. -/
theorem long_failure_run (n : Nat) (hn : specThreshold ≤ n) :
    (init.run (List.replicate n false)).cur = .error := by
  rw [init, run_failures _ _ n (by decide)]
  have := facts_saturation.1
  exact if_pos (by rw [facts_threshold]; omega)

/-! ### state notifications -/

/-- run a list of `(key, value)` notifications with the generated repeat bound, collecting the
emit decisions -/
def notes (m : ServiceState) : List (String × String) → List Bool
  | [] => []
  | (k, v) :: rest =>
      let r := ServiceState.note m k v Gpa.Facts.stateNoteMax
      r.2 :: notes r.1 rest

theorem get_set_same (m : ServiceState) (k : String) (v : String × Nat) :
    ServiceState.get (ServiceState.set m k v) k = some v := by
  induction m with
  | nil => simp [ServiceState.set, ServiceState.get]
  | cons hd tl ih => simp only [ServiceState.set]; split <;> simp [ServiceState.get, *]

theorem get_set_other (m : ServiceState) (k k' : String) (v : String × Nat) (h : k' ≠ k) :
    ServiceState.get (ServiceState.set m k v) k' = ServiceState.get m k' := by
  induction m with
  | nil => simp [ServiceState.set, ServiceState.get, h.symm]
  | cons hd tl ih => simp only [ServiceState.set]; split <;> simp [ServiceState.get, h.symm, *]

/-- **C20(f)** a notification is emitted whenever the key is new or its value changed. -/
theorem emit_on_change (m : ServiceState) (k v : String) :
    (ServiceState.get m k = none ∨ ∃ v' c, ServiceState.get m k = some (v', c) ∧ v' ≠ v) →
      (ServiceState.note m k v Gpa.Facts.stateNoteMax).2 = true := by
  rintro (h | ⟨v', c, h, hne⟩)
  · simp [ServiceState.note, h]
  · simp [ServiceState.note, h, hne]

/-- State form of the rate limit: if the entry is `(v, c)` with `c < 120`, an identical
notification is suppressed and the counter becomes `c+1`; at `c ≥ 120` it is emitted and reset. -/
theorem note_same_value (m : ServiceState) (k v : String) (c : Nat)
    (h : ServiceState.get m k = some (v, c)) :
    let r := ServiceState.note m k v Gpa.Facts.stateNoteMax
    (c < specRepeat → r.2 = false ∧ ServiceState.get r.1 k = some (v, c + 1)) ∧
    (specRepeat ≤ c → r.2 = true ∧ ServiceState.get r.1 k = some (v, 1)) := by
  simp only [ServiceState.note, h, facts_repeat]
  constructor <;> intro hc
  · simp [Nat.not_le.2 hc, get_set_same]
  · simp [hc, get_set_same]

theorem note_emit_resets (m : ServiceState) (k v : String) :
    (ServiceState.note m k v Gpa.Facts.stateNoteMax).2 = true →
      ServiceState.get (ServiceState.note m k v Gpa.Facts.stateNoteMax).1 k = some (v, 1) := by
  unfold ServiceState.note
  split
  · split <;> simp [get_set_same]
  · simp [get_set_same]

theorem note_other_key (m : ServiceState) (k k' v : String) (h : k' ≠ k) :
    ServiceState.get (ServiceState.note m k v Gpa.Facts.stateNoteMax).1 k' = ServiceState.get m k' := by
  unfold ServiceState.note
  split
  · split <;> exact get_set_other _ _ _ _ h
  · exact get_set_other _ _ _ _ h

/-- **C20(g)** at most once per 120 repetitions: when the entry for `k` is `(v, c)` (c = 1 right
after an emission, by `note_emit_resets`), then in any continuation `rest` whose notifications for `k`
all carry `v` and number at most `120 - c` (other keys interleaved arbitrarily), every notification
for `k` is suppressed. -/
theorem at_most_once_per_120 (m : ServiceState) (k v : String) (c : Nat)
    (h : ServiceState.get m k = some (v, c)) (rest : List (String × String))
    (hrest : ∀ p ∈ rest, p.1 = k → p.2 = v)
    (hcount : c + (rest.filter (·.1 = k)).length ≤ specRepeat) :
    ∀ i (hi : i < rest.length), rest[i].1 = k → (notes m rest)[i]? = some false := by
  induction rest generalizing m c with
  | nil => intro i hi; exact absurd hi (Nat.not_lt_zero i)
  | cons p rest ih =>
    obtain ⟨pk, pv⟩ := p
    have hrest' : ∀ q ∈ rest, q.1 = k → q.2 = v := fun q hq => hrest q (List.mem_cons_of_mem _ hq)
    intro i hi hk
    by_cases hpk : pk = k
    · subst hpk
      obtain rfl : pv = v := hrest _ List.mem_cons_self rfl
      simp only [List.filter_cons, decide_true, if_pos, List.length_cons] at hcount
      obtain ⟨h1, h2⟩ := (note_same_value m pk pv c h).1 (by omega)
      cases i with
      | zero => simp [notes, h1]
      | succ i => exact ih _ (c + 1) h2 hrest' (by omega) i (Nat.lt_of_succ_lt_succ hi) hk
    · simp only [List.filter_cons, hpk, decide_false] at hcount
      cases i with
      | zero => exact absurd hk hpk
      | succ i =>
        exact ih _ c (note_other_key m pk k pv (Ne.symm hpk) ▸ h) hrest' hcount i (Nat.lt_of_succ_lt_succ hi) hk

/-! ### non-vacuity -/
example : (init.run (List.replicate 20 false)).cur = .error := by decide +kernel
example : (init.run (List.replicate 19 false)).cur = .transitioning := by decide +kernel
example : (init.run (List.replicate 20 false ++ [true])).cur = .transitioning := by decide +kernel
example : (init.run (List.replicate 20 false ++ [true, true])).cur = .success := by decide +kernel
example : notes [] [("a","x"),("a","x"),("a","y"),("b","x")] = [true,false,true,true] := by decide +kernel
example : 1 ≤ init.maxCount := by decide +kernel

/-! ### the notification streams of the monitor loop -/

/-- obligation on the source: the two notification streams (status file read, file version) use different keys, there
are no further streams, and the rate-limit table is created once per monitor loop (so `at_most_once_per_120` and
`note_other_key` speak about the loop as it is wired) -/
theorem state_streams_separate :
    Gpa.Facts.stateKeyReadStatusFile ≠ Gpa.Facts.stateKeyFileVersion ∧ Gpa.Facts.stateKeyConstants = 2 ∧
    Gpa.Facts.serviceStateCreations = 1 := by decide +kernel

end Gpa.Props.C20
