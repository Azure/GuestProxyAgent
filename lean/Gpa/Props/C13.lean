/-
C13  No input can crash a request handler or a background task.
The modelled panic sites: three byte-offset truncations, header-value text conversion while
building the string to sign, utf-16 response decoding; plus "every request gets an outcome".
-/
import Gpa.Model.Truncate
import Gpa.Lemmas.Pipeline
namespace Gpa.Props.C13
open Gpa.Truncate Gpa.Text Gpa.Pipeline

theorem csize_pos (c : Char) : 1 ≤ csize c := by
  unfold csize encodeChar
  -- each branch is a list of one to four bytes
  simp only [apply_ite List.length, apply_ite (1 ≤ ·), List.length_cons, Nat.le_add_left, ite_self]

theorem utf8Len_cons (c : Char) (cs : Str) : utf8Len (c :: cs) = csize c + utf8Len cs := by
  simp [utf8Len, utf8, csize]

theorem utf8Len_append (a b : Str) : utf8Len (a ++ b) = utf8Len a + utf8Len b := by
  simp [utf8Len, utf8]

/-- **C13(a)** the truncation is total and never exceeds the cap — for every text, of any length,
with multi-byte scalars anywhere -/
theorem takeBytes_le (n : Nat) (s : Str) : utf8Len (takeBytes n s) ≤ n := by
  -- the arms of `takeBytes`: end of the text; the next scalar fits; it does not
  induction n, s using takeBytes.induct with
  | case1 n => exact Nat.zero_le n
  | case2 n c cs h ih => rw [takeBytes, if_pos h, utf8Len_cons]; exact Nat.add_le_of_le_sub' h ih
  | case3 n c cs h => rw [takeBytes, if_neg h]; exact Nat.zero_le n

theorem takeBytes_prefix (n : Nat) (s : Str) : ∃ rest, s = takeBytes n s ++ rest := by
  induction n, s using takeBytes.induct with
  | case1 => exact ⟨[], rfl⟩
  | case2 n c cs h ih => exact ih.imp fun rest e => by rw [takeBytes, if_pos h, List.cons_append, ← e]
  | case3 n c cs h => exact ⟨c :: cs, by rw [takeBytes, if_neg h]; rfl⟩

/-- it is the *longest* such prefix: the next scalar would not fit -/
theorem takeBytes_maximal (n : Nat) (s : Str) (c : Char) (rest : Str)
    (h : s = takeBytes n s ++ c :: rest) : utf8Len (takeBytes n s) + csize c > n := by
  induction n, s using takeBytes.induct with
  | case1 => cases h
  | case2 n d ds hfit ih =>
    rw [takeBytes, if_pos hfit] at h ⊢
    rw [utf8Len_cons, Nat.add_assoc]
    exact (Nat.sub_lt_iff_lt_add' hfit).mp (ih (List.cons.inj h).2)
  | case3 n d ds hfit =>
    rw [takeBytes, if_neg hfit] at h ⊢
    cases h
    rw [show utf8Len [] = 0 from rfl, Nat.zero_add]
    exact Nat.lt_of_not_le hfit

theorem eventMessage_bounded (s : Str) : utf8Len (eventMessage s) ≤ eventCap ∧ ∃ rest, s = eventMessage s ++ rest := by
  unfold eventMessage truncateTo
  split
  · exact ⟨by assumption, [], by simp⟩
  · exact ⟨takeBytes_le _ _, takeBytes_prefix _ _⟩

theorem statusMessage_bounded (s : Str) : utf8Len (statusMessage s) ≤ statusCap + 3 := by
  unfold statusMessage truncateTo
  split
  · next h =>
    rw [if_neg (Nat.not_le.mpr h), utf8Len_append, show utf8Len "...".toList = 3 by decide +kernel]
    exact Nat.add_le_add_right (takeBytes_le statusCap s) 3
  · next h => exact Nat.le_add_right_of_le (Nat.not_lt.mp h)

/-- where the old slicing did not panic, the fix computes the same text -/
theorem takeBytes_eq_byteSlice (s : Str) (n : Nat) (p : Str) (h : byteSlice? s n = some p) : takeBytes n s = p := by
  -- the arms of `byteSlice?`: no byte asked for; text exhausted; the next scalar fits; it straddles the offset
  induction s, n using byteSlice?.induct generalizing p with
  | case1 s =>
    rw [byteSlice?] at h
    cases h
    cases s with
    | nil => rfl
    | cons c cs => rw [takeBytes, if_neg (Nat.not_le.mpr (csize_pos c))]
  | case2 n => cases h
  | case3 c cs n hfit ih =>
    rw [byteSlice?, if_pos hfit, Option.map_eq_some_iff] at h
    obtain ⟨q, hq, rfl⟩ := h
    rw [takeBytes, if_pos hfit, ih q hq]
  | case4 c cs n hfit => rw [byteSlice?, if_neg hfit] at h; cases h

theorem csize_a : csize 'a' = 1 := by decide +kernel

/-- **negative witness (F7)** the code before the fix panics: a two-byte scalar straddling the
offset, for every offset `k+1` -/
theorem old_slicing_panics (k : Nat) (rest : Str) :
    byteSlice? (List.replicate k 'a' ++ 'é' :: rest) (k + 1) = none := by
  induction k with
  | zero => rw [List.replicate_zero, List.nil_append, byteSlice?, if_neg (by decide +kernel)]
  | succ k ih =>
    rw [List.replicate_succ, List.cons_append, byteSlice?, csize_a, if_pos (Nat.le_add_left 1 _), Nat.add_sub_cancel, ih]
    rfl

theorem utf8Len_replicate_a (k : Nat) (rest : Str) :
    utf8Len (List.replicate k 'a' ++ rest) = k + utf8Len rest := by
  induction k with
  | zero => simp
  | succ k ih =>
    rw [List.replicate_succ, List.cons_append, utf8Len_cons, ih, csize_a]; omega

theorem old_event_panics : eventMessageOld (List.replicate 4095 'a' ++ 'é' :: ['x']) = none := by
  have hlen : utf8Len (List.replicate 4095 'a' ++ 'é' :: ['x']) = 4095 + 3 := utf8Len_replicate_a 4095 _
  rw [eventMessageOld, hlen, if_pos (by decide +kernel)]
  exact old_slicing_panics 4095 ['x']

/-- the fixed function on the same input -/
example : eventMessage (List.replicate 3 'a' ++ 'é' :: ['x']) = List.replicate 3 'a' ++ 'é' :: ['x'] := by decide +kernel
example : takeBytes 4 (List.replicate 3 'a' ++ 'é' :: ['x']) = List.replicate 3 'a' := by decide +kernel

/-- **C13(b)** utf-16 decoding is total; on even-length frames it agrees with the old code, and
the old code panics exactly on odd-length frames -/
theorem utf16_old_panics_iff_odd (bs : List UInt8) : utf16UnitsOld bs = none ↔ bs.length % 2 = 1 := by
  induction bs using utf16UnitsOld.induct with
  | case1 => simp [utf16UnitsOld]
  | case2 => simp [utf16UnitsOld]
  | case3 a b rest ih =>
    rw [utf16UnitsOld, Option.map_eq_none_iff, ih, List.length_cons, List.length_cons, Nat.add_assoc,
      Nat.add_mod_right]

theorem utf16_agrees_on_even (bs : List UInt8) (us : List Nat) (h : utf16UnitsOld bs = some us) : utf16Units bs = us := by
  induction bs using utf16UnitsOld.induct generalizing us with
  | case1 => simp [utf16UnitsOld] at h; simp [utf16Units, h]
  | case2 => simp [utf16UnitsOld] at h
  | case3 a b rest ih =>
    simp only [utf16UnitsOld, Option.map_eq_some_iff] at h
    obtain ⟨q, hq, hp⟩ := h
    simp [utf16Units, ih q hq, hp]

/-- **C13(c)** building the string to sign is total for every header value (any bytes): the
canonical-header function has no failing case left, whereas the strict conversion of the old code
fails on any byte outside visible ASCII -/
theorem old_header_conversion_panics : Gpa.Canon.valueTextStrict [Char.ofNat 0x80] = none := by decide +kernel
example : Gpa.Canon.valueText ['c', 'a', 'f', Char.ofNat 0xC3, Char.ofNat 0xA9] = ['c', 'a', 'f', 'é'] := by decide +kernel
example : Gpa.Canon.valueText [Char.ofNat 0x80, ' '] = [Char.ofNat 0xFFFD] := by decide +kernel

/-- **C13(d)** every request gets an outcome that is an answer (a local response, the provision
answer, or a relay): no path of the request handling model ends in a panic -/
theorem every_request_answered (mac : Str → List UInt8 → Str) (env : Env) (conn : Conn) (r : Req) :
    (handle mac env conn r).outcome ≠ .panic := by
  rw [handle_eq_gate]
  cases hg : gate env conn r with
  | inl res => rcases (gate_local hg).2 with e | ⟨st, e⟩ <;> simp [e]
  | inr p => dsimp only; rw [forwardStage_eq]; split <;> simp

/-! ### the key keeper's sleep arithmetic after a late notify -/

/-- obligation on the source: the remaining sleep is computed with `saturating_sub` -/
theorem rest_is_saturating : Gpa.Facts.keeperRestSaturating = 1 ∧ Gpa.Facts.keeperRestPlainSub = 0 := ⟨rfl, rfl⟩

/-- the remaining sleep is total, never more than the interval, and equals the old subtraction wherever that did not underflow -/
theorem restOfSleep_agrees (sleep slept : Nat) :
    restOfSleep sleep slept ≤ sleep ∧ (slept ≤ sleep → restOfSleepOld sleep slept = some (restOfSleep sleep slept)) := by
  exact ⟨Nat.sub_le sleep slept, fun h => if_pos h⟩

/-- negative witness: a notify handled 10 ms after a 30 ms interval ran out made the old code panic (this ended the key keeper task) -/
theorem old_rest_panics_when_late : restOfSleepOld 30 40 = none := by decide +kernel

end Gpa.Props.C13
