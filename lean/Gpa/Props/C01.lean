/-
C01  Complete mediation: only attributed, authorized requests reach a metadata host.
Theorems about `Gpa.Pipeline.handle`, universally quantified over the MAC function, environment
(rules per endpoint in any mode/default, or unavailable; key or none), connection context, and the
request (method, URL, headers, body, declared length).
-/
import Gpa.Lemmas.Pipeline
import Gpa.Props.C02
namespace Gpa.Props.C01
open Gpa.Pipeline Gpa.Rbac Gpa.Text Gpa.Url Gpa.Canon

variable (mac : Str → List UInt8 → Str)

def isForward : Outcome → Bool
  | .forward _ => true
  | _ => false

/-- **C01(a)** a request is relayed only if its connection carries a destination and a caller
(i.e. the kernel hook attributed it), the path has no `..`, the rules could be read, and the
authorizer selected by the original destination did not say Forbidden. -/
theorem forward_only_if_attributed_and_authorized (env : Env) (conn : Conn) (r : Req) (u : UpReq)
    (h : (handle mac env conn r).outcome = .forward u) :
    ∃ ip port caller rules,
      conn.dest = some (ip, port) ∧ conn.caller = some caller ∧
      containsSub r.uri.path ['.', '.'] = false ∧
      rulesFor (endpointOf ip port) env = .ok rules ∧
      authorize (endpointOf ip port) caller r.uri rules ≠ .forbidden := by
  obtain ⟨caller, _, hg, _⟩ := handle_forward mac env conn r u h
  obtain ⟨-, hc, ip, port, rules, hd, hr, hf, ht, -⟩ := gate_pass hg
  exact ⟨ip, port, caller, rules, hd, hc, ht, hr, hf⟩

/-- **C01(b)** a connection made directly to the listener (no attribution record) is never
relayed, whatever the request and whatever the policy. -/
theorem direct_connection_never_forwarded (env : Env) (r : Req) :
    isForward (handle mac env Conn.unattributed r).outcome = false := by
  cases hf : (handle mac env Conn.unattributed r).outcome with
  | forward u =>
    obtain ⟨ip, port, _, _, hd, _⟩ := forward_only_if_attributed_and_authorized mac env _ r u hf
    simp [Conn.unattributed] at hd
  | _ => rfl

/-- the status of each refusal, in source order; `Outcome.respond` carries no upstream request,
so nothing is sent upstream in any of them -/
theorem refusal_traversal (env : Env) (conn : Conn) (r : Req)
    (hl : ¬ (r.declared.getD 0) > limitFor r) (h : containsSub r.uri.path ['.', '.'] = true) :
    (handle mac env conn r).outcome = .respond 404 := by
  unfold handle; rw [if_neg hl, if_pos h]

theorem refusal_no_destination (env : Env) (conn : Conn) (r : Req)
    (hl : ¬ (r.declared.getD 0) > limitFor r) (ht : containsSub r.uri.path ['.', '.'] = false)
    (hp : r.uri.toStr ≠ provisionUrl) (h : conn.dest = none) :
    (handle mac env conn r).outcome = .respond 421 := by
  rw [handle_eq_connStage mac env conn r hl ht hp]; unfold connStage; rw [h]

theorem refusal_no_claims (env : Env) (conn : Conn) (r : Req) (d : Str × Nat)
    (hl : ¬ (r.declared.getD 0) > limitFor r) (ht : containsSub r.uri.path ['.', '.'] = false)
    (hp : r.uri.toStr ≠ provisionUrl) (hd : conn.dest = some d) (h : conn.caller = none) :
    (handle mac env conn r).outcome = .respond 421 := by
  obtain ⟨ip, port⟩ := d
  rw [handle_eq_connStage mac env conn r hl ht hp]; unfold connStage; rw [hd, h]

theorem refusal_rules_unavailable (env : Env) (conn : Conn) (r : Req) (ip : Str) (port : Nat) (c : Caller)
    (hl : ¬ (r.declared.getD 0) > limitFor r) (ht : containsSub r.uri.path ['.', '.'] = false)
    (hp : r.uri.toStr ≠ provisionUrl) (hd : conn.dest = some (ip, port)) (hc : conn.caller = some c)
    (h : rulesFor (endpointOf ip port) env = .err) :
    (handle mac env conn r).outcome = .respond 500 := by
  rw [handle_attributed mac env conn r ip port c hl ht hp hd hc, authStage_err mac env r ip port c h]

theorem refusal_forbidden (env : Env) (conn : Conn) (r : Req) (ip : Str) (port : Nat) (c : Caller) (rules)
    (hl : ¬ (r.declared.getD 0) > limitFor r) (ht : containsSub r.uri.path ['.', '.'] = false)
    (hp : r.uri.toStr ≠ provisionUrl) (hd : conn.dest = some (ip, port)) (hc : conn.caller = some c)
    (hr : rulesFor (endpointOf ip port) env = .ok rules)
    (h : authorize (endpointOf ip port) c r.uri rules = .forbidden) :
    (handle mac env conn r).outcome = .respond 403 := by
  rw [handle_attributed mac env conn r ip port c hl ht hp hd hc, authStage_forbidden mac env r ip port c rules hr h]

theorem rulesDecision_not_forbidden (rules : Option Item) (u : Uri) (c : Claims)
    (hd : ∀ it, rules = some it → distinctNames it = true)
    (h : rulesDecision rules u c ≠ .forbidden) : rulesPermit rules u c = true := by
  cases rules with
  | none => simp [rulesPermit]
  | some it =>
    have hspec := Gpa.Props.C02.isAllowed_eq_spec it u c (hd it rfl)
    simp only [rulesDecision] at h
    simp only [rulesPermit, Bool.or_eq_true, decide_eq_true_eq]
    by_cases ha : isAllowed (compute it) u c = true
    · left; rw [← hspec]; exact ha
    · simp only [ha, Bool.false_eq_true, ↓reduceIte] at h
      by_cases hm : (compute it).mode = .audit
      · right; rw [← compute_mode]; exact hm
      · simp [hm] at h

/-- **C01(c)** in the property's own words: whenever a request is relayed, the connection was
attributed, the path has no `..`, and the access policy in force (declared rule semantics of C02;
root-only endpoints; never the proxy itself) authorizes that caller for that URL — for every rule
set with distinct names in any mode and with any default access. -/
theorem forward_implies_policy_authorizes (env : Env) (conn : Conn) (r : Req) (u : UpReq)
    (hd : ∀ ep it, rulesFor ep env = .ok (some it) → distinctNames it = true)
    (h : (handle mac env conn r).outcome = .forward u) :
    specMayRelay env conn r = true := by
  obtain ⟨ip, port, caller, rules, hdest, hcaller, htrav, hrules, hauth⟩ :=
    forward_only_if_attributed_and_authorized mac env conn r u h
  have hp : rulesDecision rules r.uri caller.claims ≠ .forbidden → rulesPermit rules r.uri caller.claims = true :=
    rulesDecision_not_forbidden rules r.uri caller.claims (fun it hit => hd _ it (hit ▸ hrules))
  simp only [specMayRelay, hdest, hcaller, htrav, Bool.not_false, Bool.true_and]
  -- per endpoint: `other` is relayed whatever the rules say and closes here; four cases remain
  cases hep : endpointOf ip port <;> simp only [hep, authorize] at hrules hauth <;> simp only [hrules]
  case imds => exact hp hauth
  case proxySelf => exact absurd rfl hauth
  -- the two root-only endpoints
  all_goals
    cases he : caller.elevated <;> simp only [he, Bool.not_false, Bool.not_true, if_true, Bool.false_eq_true, if_false] at hauth
    · exact absurd rfl hauth
    · simpa using hp hauth

/-! ### non-vacuity -/
def noRulesEnv : Env := { ws := .ok none, imds := .ok none, hostga := .ok none, key := none, now := [] }
def rootCaller : Caller := { claims := Gpa.Props.C02.alice, elevated := true }
def imdsConn : Conn := { caller := some rootCaller, dest := some ("169.254.169.254".toList, 80) }
def getReq : Req := { method := "GET".toList, uri := { path := "/metadata/instance".toList, query := none },
                      headers := [], body := [], declared := none }
example : isForward (handle (fun _ _ => []) noRulesEnv imdsConn getReq).outcome = true := by decide +kernel
example : (handle (fun _ _ => []) noRulesEnv Conn.unattributed getReq).outcome = .respond 421 := by
  apply refusal_no_destination <;> decide +kernel
example : (handle (fun _ _ => []) noRulesEnv imdsConn { getReq with uri := { path := "/a/../b".toList, query := none } }).outcome
    = .respond 404 := by
  apply refusal_traversal <;> decide +kernel

end Gpa.Props.C01
