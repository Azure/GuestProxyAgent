/-
C08  A key is never latched at the host unless the guest can recover it.
Transition system of single effects (Gpa.KeyKeeper.stepSys) with the process dying at any point.
-/
import Gpa.Model.KeyKeeper
namespace Gpa.Props.C08
open Gpa.KeyKeeper Gpa.Text

theorem lookupF_delF (l : List (Str × FileState)) (g q : Str) :
    lookupF (delF l g) q = if g = q then none else lookupF l q := by
  induction l with
  | nil => simp [delF, lookupF]
  | cons a rest ih =>
    unfold delF at ih ⊢
    by_cases ha : a.1 = g <;> by_cases hq : g = q <;> simp_all [lookupF, List.filter_cons]

theorem lookupF_setF (l : List (Str × FileState)) (g q : Str) (v : FileState) :
    lookupF (setF l g v) q = if g = q then some v else lookupF l q := by
  rw [setF, lookupF, ← delF, lookupF_delF]; split <;> rfl

theorem fetchKey_eq_some (fs : KeyDir) (g : Str) (k : Key) :
    fetchKey fs g = some k ↔ lookupF fs.final g = some (.complete k) := by
  unfold fetchKey; split <;> simp_all

theorem fetchKey_complete (fs : KeyDir) (g : Str) (k : Key) (h : lookupF fs.final g = some (.complete k)) :
    fetchKey fs g = some k := (fetchKey_eq_some fs g k).mpr h

/-- the key directory after `store_key`: `rename` in `stepSys`, `fs'` in `keyStage` -/
theorem fetchKey_store (fs : KeyDir) (tmp : List (Str × FileState)) (k : Key) (g : Str) :
    fetchKey { final := setF fs.final k.guid (.complete k), tmp := tmp } g = if k.guid = g then some k else fetchKey fs g := by
  by_cases hg : k.guid = g <;> simp [fetchKey, lookupF_setF, hg]

/-- keys the host has issued have one key per guid -/
def Functional (issued : List Key) : Prop := ∀ k ∈ issued, ∀ k' ∈ issued, k.guid = k'.guid → k = k'

def pcKey : Pc → Option Key
  | .idle => none
  | .acquired k | .tmpCreated k | .tmpWritten k _ | .renamed k | .checked k | .attestSent k => some k

structure Inv (s : Sys) : Prop where
  functional : Functional s.host.issued
  /-- the key in flight was issued by the host -/
  inFlight : ∀ k, pcKey s.pc = some k → k ∈ s.host.issued
  /-- a latched guid has its complete, correct file under the final name -/
  latched : ∀ g, s.host.latched = some g → ∃ k, fetchKey s.fs g = some k ∧ k.guid = g ∧ k ∈ s.host.issued
  /-- every complete file under a final name holds a key the host issued under that very guid -/
  finalOk : ∀ g k, lookupF s.fs.final g = some (.complete k) → k.guid = g ∧ k ∈ s.host.issued
  /-- no partial content under a final name -/
  noPartial : ∀ g n, lookupF s.fs.final g ≠ some (.partialWrite n)
  /-- from the rename on, the file is there; from the read-back on, it has been verified -/
  stored : ∀ k, (s.pc = .checked k ∨ s.pc = .attestSent k) → fetchKey s.fs k.guid = some k
  /-- what is published in memory is on disk -/
  memOk : ∀ k, s.mem = some k → fetchKey s.fs k.guid = some k

theorem inv_init : Inv Sys.init := ⟨nofun, nofun, nofun, nofun, nofun, nofun, nofun⟩

theorem functional_cons {issued : List Key} {k : Key} (hf : Functional issued)
    (hall : issued.all (fun k' => k'.guid ≠ k.guid || k' == k) = true) : Functional (k :: issued) := by
  have hk : ∀ k' ∈ issued, k'.guid = k.guid → k' = k := fun k' hk' hg => by
    simpa [hg] using List.all_eq_true.mp hall k' hk'
  exact List.forall_mem_cons.mpr ⟨List.forall_mem_cons.mpr ⟨fun _ => rfl, fun b hb e => (hk b hb e.symm).symm⟩,
    fun a ha => List.forall_mem_cons.mpr ⟨hk a ha, hf a ha⟩⟩

/-- the frame of a step that leaves the host and the final names alone: the in-flight key, the verified key
and the published key are justified in the state before -/
theorem Inv.frame {s s' : Sys} (h : Inv s) (hhost : s'.host = s.host) (hfin : s'.fs.final = s.fs.final)
    (hpc : ∀ k, pcKey s'.pc = some k → pcKey s.pc = some k)
    (hst : ∀ k, (s'.pc = .checked k ∨ s'.pc = .attestSent k) → fetchKey s.fs k.guid = some k)
    (hmem : ∀ k, s'.mem = some k → fetchKey s.fs k.guid = some k) : Inv s' := by
  have hfk : fetchKey s'.fs = fetchKey s.fs := by funext g; simp only [fetchKey, hfin]
  exact
    ⟨by rw [hhost]; exact h.functional,
     fun k hk => by rw [hhost]; exact h.inFlight k (hpc k hk),
     by rw [hhost, hfk]; exact h.latched,
     by rw [hhost, hfin]; exact h.finalOk,
     by rw [hfin]; exact h.noPartial,
     by rw [hfk]; exact hst,
     by rw [hfk]; exact hmem⟩

/-- every effect — including process death at any point — preserves the invariant -/
theorem inv_step (s : Sys) (e : Ev) (h : Inv s) : Inv (stepSys s e) := by
  have keep {k : Key} {pc : Pc} (hpc : s.pc = pc) (hk : pcKey pc = some k) : ∀ k', some k = some k' → pcKey s.pc = some k' :=
    fun _ e => by rw [hpc, hk]; exact e
  -- the cases of `stepSys` in the order of its arms; those not named leave the state as it is
  fun_cases stepSys s e
  case case1 k hpc hall =>  -- hostIssues: the guid is new, or the key the one already issued under it
    exact
      ⟨functional_cons h.functional hall,
       fun k' hk' => by cases hk'; exact List.mem_cons_self,
       fun g hg => (h.latched g hg).imp fun k' hk' => ⟨hk'.1, hk'.2.1, List.mem_cons_of_mem _ hk'.2.2⟩,
       fun g k' hk' => ⟨(h.finalOk g k' hk').1, List.mem_cons_of_mem _ (h.finalOk g k' hk').2⟩,
       h.noPartial, nofun, h.memOk⟩
  case case4 k hpc => exact h.frame rfl rfl (keep hpc rfl) nofun h.memOk  -- createTmp
  case case6 n k hpc => exact h.frame rfl rfl (keep hpc rfl) nofun h.memOk  -- writeMore, first bytes
  case case7 n k m hpc => exact h.frame rfl rfl (keep hpc rfl) nofun h.memOk  -- writeMore
  case case9 k hpc =>  -- rename of a completely written temp file
    have hkin : k ∈ s.host.issued := h.inFlight k (by rw [hpc]; rfl)
    -- a key that could be fetched before still can: under `k.guid` it was `k` itself
    have hkeep : ∀ g k', fetchKey s.fs g = some k' →
        fetchKey { final := setF s.fs.final k.guid (.complete k), tmp := delF s.fs.tmp k.guid } g = some k' := by
      intro g k' hk'
      rw [fetchKey_store]
      split
      · next hg =>
        obtain ⟨h1, h2⟩ := h.finalOk g k' ((fetchKey_eq_some ..).mp hk')
        rw [h.functional k hkin k' h2 (by rw [h1, hg])]
      · exact hk'
    refine ⟨h.functional, fun k' hk' => by cases hk'; exact hkin, ?_, ?_, ?_, nofun,
      fun k' hk' => hkeep _ _ (h.memOk k' hk')⟩
    · exact fun g hg => (h.latched g hg).imp fun k' hk' => ⟨hkeep g k' hk'.1, hk'.2⟩
    · intro g k' hk'
      rw [lookupF_setF] at hk'
      split at hk'
      · next hg => cases hk'; exact ⟨hg, hkin⟩
      · exact h.finalOk g k' hk'
    · intro g n
      rw [lookupF_setF]
      split
      · nofun
      · exact h.noPartial g n
  case case12 k hpc hchk =>  -- readBack, the file is the key
    refine h.frame rfl rfl (keep hpc rfl) (fun k' hk' => ?_) h.memOk
    rcases hk' with hk' | hk' <;> cases hk'
    exact hchk
  case case13 => exact h.frame rfl rfl nofun nofun h.memOk  -- readBack, it is not
  case case15 k hpc =>  -- sendAttest
    refine h.frame rfl rfl (keep hpc rfl) (fun k' hk' => ?_) h.memOk
    rcases hk' with hk' | hk' <;> cases hk'
    exact h.stored k (.inl hpc)
  case case17 k hpc =>  -- hostLatches
    refine ⟨h.functional, h.inFlight, ?_, h.finalOk, h.noPartial, h.stored, h.memOk⟩
    intro g hg
    cases hg
    exact ⟨k, h.stored k (.inr hpc), rfl, h.inFlight k (by rw [hpc]; rfl)⟩
  case case19 k hpc _ =>  -- publish, the host has latched
    exact h.frame rfl rfl nofun nofun fun k' hk' => by cases hk'; exact h.stored k (.inr hpc)
  case case20 => exact h.frame rfl rfl nofun nofun h.memOk  -- publish, it has not
  case case22 => exact h.frame rfl rfl nofun nofun nofun  -- crash
  case case23 g _ _ k hfk =>  -- useLocal
    refine h.frame rfl rfl (fun _ hk => hk) h.stored fun k' hk' => ?_
    cases hk'
    rw [(h.finalOk g k ((fetchKey_eq_some ..).mp hfk)).1]; exact hfk
  all_goals exact h

theorem inv_run (evs : List Ev) (s : Sys) (h : Inv s) : Inv (evs.foldl stepSys s) := by
  induction evs generalizing s with
  | nil => exact h
  | cons e es ih => exact ih _ (inv_step s e h)

/-- **C08(a)** for every sequence of effects and crashes from the initial state: whenever the host
regards a key as attested, that key is present, complete and readable under its final name in the key
store, with the guid and key value the host issued -/
theorem latched_implies_recoverable (evs : List Ev) (g : Str)
    (h : (evs.foldl stepSys Sys.init).host.latched = some g) :
    ∃ k, fetchKey (evs.foldl stepSys Sys.init).fs g = some k ∧ k.guid = g ∧ k ∈ (evs.foldl stepSys Sys.init).host.issued :=
  (inv_run evs _ inv_init).latched g h

/-- **C08(b)** the agent never attests a key it has not first stored and read back identically -/
theorem attest_only_after_verified_store (evs : List Ev) (k : Key)
    (h : (evs.foldl stepSys Sys.init).pc = .attestSent k) :
    fetchKey (evs.foldl stepSys Sys.init).fs k.guid = some k :=
  (inv_run evs _ inv_init).stored k (Or.inr h)

/-- **C08(c)** a crash never leaves a truncated file under a key's final name -/
theorem final_name_never_partial (evs : List Ev) (g : Str) (n : Nat) :
    lookupF (evs.foldl stepSys Sys.init).fs.final g ≠ some (.partialWrite n) :=
  (inv_run evs _ inv_init).noPartial g n

/-- **C08(d)** after a restart (memory lost) with a key latched at the host, the local key is found
and used — no new key is requested (the step neither issues a key nor touches the host) -/
theorem restart_uses_local_key (evs : List Ev) (g : Str)
    (h : (evs.foldl stepSys Sys.init).host.latched = some g) :
    let s := stepSys (evs.foldl stepSys Sys.init) .crash
    let s' := stepSys s .useLocal
    (∃ k, s'.mem = some k ∧ k.guid = g) ∧ s'.host.issued = s.host.issued ∧ s'.host.latched = some g := by
  obtain ⟨k, hk, hg, _⟩ := latched_implies_recoverable evs g h
  simp only [stepSys, h, hk]
  exact ⟨⟨k, by simp, hg⟩, by simp, by simp⟩

/-! non-vacuity: a full latch, then a crash, then recovery -/
def kx : Key := { guid := "g".toList, key := "ab".toList }
def latchRun : List Ev := [.hostIssues kx, .createTmp, .writeMore 40, .writeMore 60, .rename, .readBack, .sendAttest, .hostLatches, .crash]
example : (latchRun.foldl stepSys Sys.init).host.latched = some "g".toList := by decide +kernel
example : (stepSys (latchRun.foldl stepSys Sys.init) .useLocal).mem = some kx := by decide +kernel
/-- a crash in the middle of the temp-file write leaves nothing under the final name -/
example : ([Ev.hostIssues kx, .createTmp, .writeMore 40, .crash].foldl stepSys Sys.init).fs.final = [] := by decide +kernel

end Gpa.Props.C08
