/-
C02  RBAC decision equals the declared rule semantics, deterministically.
The lemmas about rule flattening and the normal forms of `compute`/`isAllowed` are in Gpa/Lemmas/{Map,Rbac}.lean.
-/
import Gpa.Lemmas.Rbac
import Gpa.Lemmas.Case
namespace Gpa.Props.C02
open Gpa.Rbac Gpa.Text Gpa.Url

/-- **C02 main theorem**: for every rule document whose privilege, role and identity names are
pairwise distinct (dangling names, missing sections, any mode/default strings, any case allowed),
every URL and every caller, the code's decision is the property's sentence evaluated on the document. -/
theorem isAllowed_eq_spec (it : Item) (u : Uri) (cl : Claims) (hd : distinctNames it = true) :
    isAllowed (compute it) u cl = specAllowed it u cl := by
  have hg : ((sections it).1.any fun p => privMatch p u && granted (compute it) p.name cl) =
      (sections it).1.any fun p => privMatch p u && specGranted it p cl := by
    rw [Bool.eq_iff_iff, List.any_eq_true, List.any_eq_true]
    exact exists_congr fun p => and_congr_right fun hp => by rw [granted_eq_spec it hd p hp]
  simp only [isAllowed_eq, specAllowed_eq, compute_mode, compute_defaultAllowed, compute_privileges it hd,
    List.any_map, Function.comp_def, hg]

/-- disabled rule sets allow everything (no hypothesis on names) -/
theorem disabled_allows (it : Item) (u : Uri) (c : Claims) (h : parseMode it.mode = .disabled) :
    specAllowed it u c = true ∧ isAllowed (compute it) u c = true := by
  simp [specAllowed_eq, isAllowed_eq, compute_mode, h]

/-- nothing matches the URL ⇒ the decision is the default access (no hypothesis on names) -/
theorem default_when_nothing_matches (it : Item) (u : Uri) (c : Claims)
    (hm : parseMode it.mode ≠ .disabled)
    (hno : ∀ kv ∈ (compute it).privileges, privMatch kv.2 u = false) :
    isAllowed (compute it) u c = (compute it).defaultAllowed := by
  have h1 : ((compute it).privileges.any fun kv => privMatch kv.2 u && granted (compute it) kv.2.name c) = false :=
    List.any_eq_false.mpr fun kv hkv => by simp [hno kv hkv]
  have h2 : ((compute it).privileges.any fun kv => privMatch kv.2 u) = false :=
    List.any_eq_false.mpr fun kv hkv => by simp [hno kv hkv]
  rw [isAllowed_eq, compute_mode, if_neg hm, h1, h2]
  rfl

/-- some privilege matches the URL but none that matches is granted to the caller ⇒ deny,
whatever the default access -/
theorem deny_when_matched_but_ungranted (it : Item) (u : Uri) (c : Claims)
    (hm : parseMode it.mode ≠ .disabled)
    (hsome : ∃ kv ∈ (compute it).privileges, privMatch kv.2 u = true)
    (hnone : ∀ kv ∈ (compute it).privileges, privMatch kv.2 u = true → granted (compute it) kv.2.name c = false) :
    isAllowed (compute it) u c = false := by
  have h1 : ((compute it).privileges.any fun kv => privMatch kv.2 u && granted (compute it) kv.2.name c) = false :=
    List.any_eq_false.mpr fun kv hkv => by cases h : privMatch kv.2 u <;> simp [hnone kv hkv, h]
  rw [isAllowed_eq, compute_mode, if_neg hm, h1, List.any_eq_true.mpr hsome]
  rfl

/-! ### order independence -/

theorem spec_perm (it it' : Item) (u : Uri) (c : Claims)
    (hmode : it'.mode = it.mode) (hdef : it'.defaultAccess = it.defaultAccess)
    (hp : (sections it).1.Perm (sections it').1) (hr : (sections it).2.1.Perm (sections it').2.1)
    (hi : (sections it).2.2.1.Perm (sections it').2.2.1) (ha : (sections it).2.2.2.Perm (sections it').2.2.2) :
    specAllowed it' u c = specAllowed it u c := by
  have hg (p : Privilege) : specGranted it' p c = specGranted it p c := by
    rw [Bool.eq_iff_iff, specGranted_iff, specGranted_iff]
    simp only [hr.mem_iff, hi.mem_iff, ha.mem_iff]
  simp only [specAllowed_eq, hmode, hdef, hg, hp.any_eq]

/-- **order independence of the code's decision** for documents with distinct names: permuting
privileges, roles, identities and role assignments leaves the decision unchanged. -/
theorem isAllowed_perm (it it' : Item) (u : Uri) (c : Claims) (hd : distinctNames it = true)
    (hmode : it'.mode = it.mode) (hdef : it'.defaultAccess = it.defaultAccess)
    (hp : (sections it).1.Perm (sections it').1) (hr : (sections it).2.1.Perm (sections it').2.1)
    (hi : (sections it).2.2.1.Perm (sections it').2.2.1) (ha : (sections it).2.2.2.Perm (sections it').2.2.2) :
    isAllowed (compute it') u c = isAllowed (compute it) u c := by
  have hd' : distinctNames it' = true := by
    rw [distinctNames_iff] at hd ⊢
    exact ⟨(hp.map _).nodup hd.1, (hr.map _).nodup hd.2.1, (hi.map _).nodup hd.2.2⟩
  rw [isAllowed_eq_spec it' u c hd', isAllowed_eq_spec it u c hd, spec_perm it it' u c hmode hdef hp hr hi ha]

/-- hash-iteration order: the decision depends on the computed privilege map only as a multiset -/
theorem isAllowed_iteration_order (c c' : Computed) (u : Uri) (cl : Claims)
    (h : c.privileges.Perm c'.privileges) (hm : c'.mode = c.mode) (hdf : c'.defaultAllowed = c.defaultAllowed)
    (ha : c'.assignments = c.assignments) (hi : c'.identities = c.identities) :
    isAllowed c' u cl = isAllowed c u cl := by
  simp only [isAllowed_eq, granted, hm, hdf, ha, hi, h.any_eq]

/-! ### letter case -/

/-- the rule's path enters the match only through its lower-cased form … -/
theorem privMatch_rule_path_case (p : Privilege) (path' : Str) (u : Uri) (h : lower path' = lower p.path) :
    privMatch { p with path := path' } u = privMatch p u := by
  simp [privMatch, h]

/-- in particular a rule written in any letter case decides like the same rule written in lower case -/
theorem privMatch_rule_path_lowered (p : Privilege) (u : Uri) :
    privMatch { p with path := lower p.path } u = privMatch p u :=
  privMatch_rule_path_case p (lower p.path) u (lower_idem _)

/-- … and so does the request's path -/
theorem privMatch_request_path_case (p : Privilege) (u : Uri) (path' : Str) (h : lower path' = lower u.path) :
    privMatch p { u with path := path' } = privMatch p u := by
  simp [privMatch, h, queryPairs]

theorem privMatch_request_path_lowered (p : Privilege) (u : Uri) :
    privMatch p { u with path := lower u.path } = privMatch p u :=
  privMatch_request_path_case p u (lower u.path) (lower_idem _)

/-- rule query keys and values enter only through their lower-cased forms -/
theorem privMatch_rule_query_case (p : Privilege) (qs : List (Str × Str)) (fk fv : Str → Str) (u : Uri)
    (hq : p.query = some qs) (hk : ∀ s, lower (fk s) = lower s) (hv : ∀ s, lower (fv s) = lower s) :
    privMatch { p with query := some (qs.map fun kv => (fk kv.1, fv kv.2)) } u = privMatch p u := by
  simp [privMatch, hq, List.all_map, Function.comp_def, hk, hv]

/-! ### non-vacuity and witnesses -/

def exItem (rulePath : String) : Item :=
  { defaultAccess := "allow".toList, mode := "enforce".toList,
    rules := some { privileges := some [{ name := "p1".toList, path := rulePath.toList, query := none }],
                    roles := some [{ name := "r1".toList, privileges := ["p1".toList] }],
                    identities := some [{ name := "i1".toList, userName := some "bob".toList, groupName := none, exePath := none, processName := none }],
                    roleAssignments := some [{ role := "r1".toList, identities := ["i1".toList] }] } }
def alice : Claims := { userName := "alice".toList, groups := [], processName := "curl".toList, exePath := "/usr/bin/curl".toList }
def bob : Claims := { alice with userName := "bob".toList }
def exUri : Uri := { path := "/metadata/instance".toList, query := none }

example : distinctNames (exItem "/Metadata") = true := by decide +kernel
example : isAllowed (compute (exItem "/Metadata")) exUri alice = false := by decide +kernel
example : isAllowed (compute (exItem "/Metadata")) exUri bob = true := by decide +kernel
example : isAllowed (compute (exItem "/other")) exUri alice = true := by decide +kernel

/-- negative witness (F2): without the distinct-names hypothesis the decision depends on the
order of the privilege list — two privileges share the name `p1`. -/
def dupRules (ps : List Privilege) : Rules :=
  { privileges := some ps,
    roles := some [{ name := "r1".toList, privileges := ["p1".toList] }],
    identities := some [{ name := "i1".toList, userName := some "bob".toList, groupName := none, exePath := none, processName := none }],
    roleAssignments := some [{ role := "r1".toList, identities := ["i1".toList] }] }
def dupItem (ps : List Privilege) : Item :=
  { defaultAccess := "allow".toList, mode := "enforce".toList, rules := some (dupRules ps) }
def pa : Privilege := { name := "p1".toList, path := "/secret".toList, query := none }
def pb : Privilege := { name := "p1".toList, path := "/other".toList, query := none }
theorem duplicate_names_order_dependent :
    isAllowed (compute (dupItem [pa, pb])) { path := "/secret".toList, query := none } alice ≠
    isAllowed (compute (dupItem [pb, pa])) { path := "/secret".toList, query := none } alice := by decide +kernel

end Gpa.Props.C02
