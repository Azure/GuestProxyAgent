/-
C05  Proxy-owned headers cannot be spoofed or duplicated by the client.
-/
import Gpa.Lemmas.Pipeline
namespace Gpa.Props.C05
open Gpa.Pipeline Gpa.Rbac Gpa.Text Gpa.Url Gpa.Headers Gpa.Canon

variable (mac : Str → List UInt8 → Str)

/-- generated header names are the documented ones and pairwise different -/
theorem facts_names :
    Gpa.Facts.claimsHeaderName = "x-ms-azure-host-claims" ∧
    Gpa.Facts.dateHeaderName = "x-ms-azure-host-date" ∧
    Gpa.Facts.authorizationHeaderName = "x-ms-azure-host-authorization" := ⟨rfl, rfl, rfl⟩

theorem names_distinct : claimsHeader ≠ dateHeader ∧ claimsHeader ≠ authHeader ∧ dateHeader ≠ authHeader :=
  ⟨toList_ne (by decide), toList_ne (by decide), toList_ne (by decide)⟩

theorem names_not_te : claimsHeader ≠ teHeader ∧ dateHeader ≠ teHeader ∧ authHeader ≠ teHeader :=
  ⟨toList_ne (by decide), toList_ne (by decide), toList_ne (by decide)⟩

/-- **C05(a,b)** in every relayed request — for every client header list, containing any number of
copies of the proxy-owned names in any letter case with any values — the host sees exactly one
claims header, stating the attributed caller's elevation, and exactly one date header carrying the
proxy's clock value. -/
theorem claims_and_date_unique_and_true (env : Env) (conn : Conn) (r : Req) (u : UpReq)
    (h : (handle mac env conn r).outcome = .forward u) :
    ∃ caller, conn.caller = some caller ∧
      count claimsHeader u.headers = 1 ∧ get? claimsHeader u.headers = some (claimsValue caller.elevated) ∧
      count dateHeader u.headers = 1 ∧ get? dateHeader u.headers = some env.now := by
  obtain ⟨caller, _, hg, _, rfl⟩ := handle_forward mac env conn r u h
  refine ⟨caller, (gate_pass hg).2.1, upstream_headers_ind mac env caller r
    (fun hs => count claimsHeader hs = 1 ∧ get? claimsHeader hs = some (claimsValue caller.elevated) ∧
      count dateHeader hs = 1 ∧ get? dateHeader hs = some env.now) ?_ ?_ ?_⟩
  · unfold ownedHeaders
    rw [count_insert_other _ _ _ _ names_distinct.1, get?_insert_other _ _ _ _ names_distinct.1]
    exact ⟨count_insert_self _ _ _, get?_insert_self _ _ _, count_insert_self _ _ _, get?_insert_self _ _ _⟩
  · intro hs h
    rwa [count_remove_other _ _ _ names_not_te.1, get?_remove_other _ _ _ names_not_te.1,
      count_remove_other _ _ _ names_not_te.2.1, get?_remove_other _ _ _ names_not_te.2.1]
  · intro v hs h
    rwa [count_insert_other _ _ _ _ names_distinct.2.1, get?_insert_other _ _ _ _ names_distinct.2.1,
      count_insert_other _ _ _ _ names_distinct.2.2, get?_insert_other _ _ _ _ names_distinct.2.2]

/-- **C05(c)** on a request the proxy signs, exactly one authorization header reaches the host and it
is the proxy's (`scheme keyId mac`): no client-supplied copy survives. -/
theorem client_authorization_never_forwarded_when_signed (env : Env) (conn : Conn) (r : Req) (u : UpReq)
    (h : (handle mac env conn r).outcome = .forward u) (guid : Str) (si : List UInt8)
    (hs : u.signed = some (guid, si)) :
    ∃ key, env.key = some (guid, key) ∧ count authHeader u.headers = 1 ∧
      get? authHeader u.headers = some (authScheme ++ [' '] ++ guid ++ [' '] ++ mac key si) := by
  obtain ⟨caller, _, _, _, rfl⟩ := handle_forward mac env conn r u h
  obtain ⟨key, hk, _, hh⟩ := upstream_signed mac env caller r guid si hs
  exact ⟨key, hk, by rw [hh]; exact count_insert_self _ _ _, by rw [hh]; exact get?_insert_self _ _ _⟩

/-- a client value under a proxy-owned name never equals what the host sees unless it is the
proxy's own value: stated as "the only claims value upstream is the proxy's" -/
theorem spoofed_claims_dropped (env : Env) (conn : Conn) (r : Req) (u : UpReq)
    (h : (handle mac env conn r).outcome = .forward u) (v : Str) (hv : (claimsHeader, v) ∈ u.headers) :
    ∃ caller, conn.caller = some caller ∧ v = claimsValue caller.elevated := by
  obtain ⟨caller, hc, hcnt, hget, _, _⟩ := claims_and_date_unique_and_true mac env conn r u h
  refine ⟨caller, hc, ?_⟩
  exact unique_value claimsHeader v _ u.headers hcnt hget hv

/-! non-vacuity -/
example : count claimsHeader (insert claimsHeader (claimsValue false)
    (ofWire [("X-MS-Azure-Host-Claims".toList, "{ \"isRoot\": \"true\"}".toList),
             ("x-ms-azure-host-claims".toList, "spoof".toList)])) = 1 := by decide +kernel

end Gpa.Props.C05
