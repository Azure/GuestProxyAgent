/-
C15  Request bodies above the size limit are refused and never relayed.
-/
import Gpa.Lemmas.Pipeline
namespace Gpa.Props.C15
open Gpa.Pipeline Gpa.Rbac Gpa.Text Gpa.Url Gpa.Headers Gpa.Canon

variable (mac : Str → List UInt8 → Str)

/-- the limits in the property text -/
def specLow : Nat := 100 * 1024
def specLarge : Nat := 100 * 1024 * 1024

/-- **obligation on generated facts**: the two limits found in the source are the specified ones -/
theorem limits_are_spec :
    Gpa.Facts.requestBodyLowLimit = specLow ∧ Gpa.Facts.requestBodyLargeLimit = specLarge := by decide

/-- the limit that applies to a request, in the property's words -/
def specLimit (r : Req) : Nat := if shouldSkipSig r.method r.uri then specLarge else specLow

theorem limitFor_eq_spec (r : Req) : limitFor r = specLimit r := by
  unfold limitFor specLimit
  rw [limits_are_spec.1, limits_are_spec.2]

def isForward : Outcome → Bool
  | .forward _ => true
  | _ => false

/-- the client-visible status of an outcome, if it is a local answer -/
def localStatus : Outcome → Option Nat
  | .respond s => some s
  | _ => none

/-- **C15(a)** a declared length above the limit is refused with 413 before anything else happens -/
theorem oversize_declared_refused (env : Env) (conn : Conn) (r : Req) (n : Nat)
    (hdecl : r.declared = some n) (h : n > specLimit r) :
    (handle mac env conn r).outcome = .respond 413 := by
  unfold handle
  rw [if_pos (by rw [hdecl, limitFor_eq_spec]; exact h)]

/-- **C15(b)** a body above the limit — declared or only discovered while reading (chunked) — is
never relayed: the outcome is a local 4xx answer (or the request was refused earlier / answered
locally), for every environment, connection and request -/
theorem oversize_never_relayed (env : Env) (conn : Conn) (r : Req) (h : r.body.length > specLimit r) :
    isForward (handle mac env conn r).outcome = false := by
  cases hf : (handle mac env conn r).outcome with
  | forward u =>
    obtain ⟨_, _, _, hle, _⟩ := handle_forward mac env conn r u hf
    rw [limitFor_eq_spec] at hle
    omega
  | _ => rfl

/-- … and when the request reaches the forwarding stage the answer is 400 -/
theorem oversize_undeclared_400 (env : Env) (caller : Caller) (r : Req) (h : r.body.length > specLimit r) :
    forwardStage mac env caller r = .respond 400 := by
  rw [forwardStage_eq, if_pos (by rw [limitFor_eq_spec]; exact h)]

/-- **C15(c)** a body of exactly the limit or less is accepted and relayed intact -/
theorem at_limit_relayed_intact (env : Env) (caller : Caller) (r : Req) (h : r.body.length ≤ specLimit r) :
    ∃ u, forwardStage mac env caller r = .forward u ∧ u.body = r.body := by
  exact ⟨_, by rw [forwardStage_eq, if_neg (by rw [limitFor_eq_spec]; omega)], rfl⟩

/-- **C15(d)** the large limit applies exactly to the two exempt method/URL pairs, compared
case-insensitively on the URL -/
theorem limit_class_iff_exempt (r : Req) :
    specLimit r = specLarge ↔
      ((r.method = "PUT".toList ∧ lower r.uri.toStr = "/vmagentlog".toList) ∨
       (r.method = "POST".toList ∧ lower r.uri.toStr = "/machine/?comp=telemetrydata".toList)) := by
  unfold specLimit
  rw [← shouldSkipSig_iff]
  split
  · exact ⟨fun _ => ‹_›, fun _ => rfl⟩
  · exact ⟨fun h => absurd h (by decide), fun h => absurd h ‹_›⟩

/-- replace the body that an outcome relays -/
def withBody (b : List UInt8) : Outcome → Outcome
  | .forward u => .forward { u with body := b }
  | o => o

/-- **C15(e)** for the upload class (the requests that are not signed: `PUT /vmAgentLog`, `POST /machine/?comp=telemetrydata`) the
body is opaque: the verdict depends on it through its length alone, and what is relayed is the body as given. This is what
lets the check judge uploads of many MiB by length and byte-equality without running the list-based model on them. -/
theorem upload_body_opaque (env : Env) (conn : Conn) (r : Req) (b : List UInt8)
    (hx : shouldSkipSig r.method r.uri = true) (hl : b.length = r.body.length) :
    (handle mac env conn { r with body := b }).outcome = withBody b (handle mac env conn r).outcome ∧
    (handle mac env conn { r with body := b }).failedAuth = (handle mac env conn r).failedAuth := by
  rw [handle_eq_gate, handle_eq_gate mac env conn r, gate_body]
  cases hg : gate env conn r with
  | inl res =>
    refine ⟨?_, rfl⟩
    rcases (gate_local hg).2 with e | ⟨st, e⟩ <;> simp only [e, withBody]
  | inr p =>
    refine ⟨?_, rfl⟩
    dsimp only
    rw [forwardStage_eq, forwardStage_eq]
    show (if b.length > limitFor r then _ else _) = _
    rw [hl]
    split
    · rfl
    · simp only [withBody, upstream, signing_exempt mac env p.1 r hx, signing_exempt mac env p.1 { r with body := b } hx]
      rfl

/-- the body an accepted upload relays is the body received, byte for byte -/
theorem upload_relays_body_as_given (env : Env) (conn : Conn) (r : Req) (u : UpReq)
    (hx : shouldSkipSig r.method r.uri = true) (h : (handle mac env conn r).outcome = .forward u) :
    u.body = r.body ∧ u.signed = none := by
  obtain ⟨caller, _, _, _, rfl⟩ := handle_forward mac env conn r u h
  exact ⟨rfl, by simp only [upstream, signing_exempt mac env caller r hx]⟩

/-! non-vacuity -/
example : specLimit { method := "PUT".toList, uri := ⟨"/VMAgentLog".toList, none⟩, headers := [], body := [], declared := none } = specLarge := by decide +kernel
example : specLimit { method := "GET".toList, uri := ⟨"/vmagentlog".toList, none⟩, headers := [], body := [], declared := none } = specLow := by decide +kernel

end Gpa.Props.C15
