/-
C12  The latched key value never leaves the key store.
-/
import Gpa.Model.Secrets
namespace Gpa.Props.C12
open Gpa.Secrets

/-- obligation on the source: both error texts withhold their input -/
theorem code_withholds : codeVariant = { withholdHexKey := true, withholdBody := true } := rfl

/-- obligation on the source: the key document has no text form (`Debug`/`Display`) a format string could use -/
theorem key_has_no_text_form : Gpa.Facts.keyStructDerivesDebug = 0 ∧ Gpa.Facts.keyStructImplsDisplay = 0 := ⟨rfl, rfl⟩

/-- obligation on the source: the key directory is made root-only, mode 0700 -/
theorem key_dir_mode : Gpa.Facts.keyDirMode = 0o700 := rfl

/-- the variant in which both error texts withhold their input: the one the source is in (`code_withholds`) -/
def fixed : Variant := { withholdHexKey := true, withholdBody := true }

/-! ### texts -/

@[simp] theorem leaks_nil : leaks [] = false := rfl
@[simp] theorem leaks_cons (p : Piece) (t : Text) : leaks (p :: t) = (isSecret p || leaks t) := rfl
@[simp] theorem leaks_append (a b : Text) : leaks (a ++ b) = (leaks a || leaks b) := List.any_append
attribute [local simp] isSecret

@[simp] theorem hexErr_clean (k : KeyVal) : leaks (hexErrText fixed k) = false := by
  simp [hexErrText, fixed]

@[simp] theorem acquireErr_clean (a : AcquireIn) : leaks (acquireErrText fixed a) = false := by
  cases a <;> simp [acquireErrText, fixed]

/-- all emissions outside the key file are free of key material -/
def Clean (es : List Emit) : Prop := ∀ e ∈ es, e.sink ≠ .keyFile → leaks e.text = false

@[simp] theorem Clean.nil : Clean [] := fun _ h => nomatch h
@[simp] theorem Clean.cons_iff {e : Emit} {es : List Emit} :
    Clean (e :: es) ↔ (e.sink ≠ .keyFile → leaks e.text = false) ∧ Clean es := List.forall_mem_cons
@[simp] theorem Clean.append_iff {a b : List Emit} : Clean (a ++ b) ↔ Clean a ∧ Clean b := List.forall_mem_append
theorem Clean.append {a b : List Emit} (ha : Clean a) (hb : Clean b) : Clean (a ++ b) :=
  Clean.append_iff.2 ⟨ha, hb⟩

@[simp] theorem clean_logAgent (lvl : Level) (tid : String) (t : Text) : Clean (logAgent lvl tid t) ↔ leaks t = false := by
  unfold logAgent; split <;> simp

@[simp] theorem clean_writeEvent (tid : String) (t : Text) : Clean (writeEvent tid t) ↔ leaks t = false := by
  simp [writeEvent]

@[simp] theorem clean_startupEvent (tid : String) (t : Text) : Clean (startupEvent tid t) ↔ leaks t = false := by
  simp [startupEvent]

/-- the state invariant: the stored status message holds no key material -/
def Inv (st : St) : Prop := leaks st.statusMsg = false

@[simp] theorem inv_frame (st : St) (c : Option KeyVal) (f : List KeyVal) (ch : String) (s : Bool) :
    Inv { st with cur := c, files := f, chan := ch, started := s } ↔ Inv st := Iff.rfl

theorem inv_init : Inv St.init := rfl

/-- whichever branch is taken, the stored message afterwards is `t` and nothing else has changed -/
theorem setStatus_fst (st : St) (tid : String) (t : Text) (b : Bool) :
    (setStatus st tid t b).1 = { st with statusMsg := t } := by
  unfold setStatus
  split
  · next h => subst h; rfl
  · rfl

theorem setStatus_spec (st : St) (tid : String) (t : Text) (b : Bool) (ht : leaks t = false) :
    Inv (setStatus st tid t b).1 ∧ Clean (setStatus st tid t b).2 := by
  refine ⟨by rw [setStatus_fst]; exact ht, ?_⟩
  by_cases h : st.statusMsg = t
  · cases b <;> simp [setStatus, h, ht]
  · simp [setStatus, h, ht]

theorem latch_spec (st : St) (k : KeyVal) (tid : String) (t : Text) (ht : leaks t = false) :
    Inv (latch st k tid t).1 ∧ Clean (latch st k tid t).2 := by
  simp [latch, setStatus_spec, ht]

theorem finishPoll_spec (st : St) (state : String) (hi : Inv st) :
    Inv (finishPoll st state).1 ∧ Clean (finishPoll st state).2 := by
  unfold finishPoll
  by_cases h1 : st.chan = state
  · simp [h1, hi]
  · by_cases h2 : state = disabledState
    · simp [if_neg h1, if_pos h2, setStatus_spec]
    · simp [h1, h2, hi]

theorem fetchFailed_clean (g : Option Nat) : Clean (fetchFailed g) := by
  cases g <;> simp [fetchFailed]

theorem attestStage_spec (st : St) (k : KeyVal) (a : AttestIn) (hi : Inv st) :
    Inv (attestStage fixed st k a).1 ∧ Clean (attestStage fixed st k a).2.2 := by
  cases h : k.hexOk
  · simp [attestStage, h, hi]
  · cases a <;> simp [attestStage, h, latch_spec, hi]

theorem acquireStage_spec (st : St) (acq : AcquireIn) (so : Bool) (att : AttestIn) (hi : Inv st) :
    Inv (acquireStage fixed st acq so att).1 ∧ Clean (acquireStage fixed st acq so att).2.2.1 := by
  unfold acquireStage
  split
  · cases so <;> simp [setStatus_spec, attestStage_spec, storeEmits, hi]
  · simp [setStatus_spec]

theorem keyStage_spec (st : St) (guid : Option Nat) (i : PollIn) (hi : Inv st) :
    Inv (keyStage fixed st guid i).1 ∧ Clean (keyStage fixed st guid i).2.2.1 := by
  unfold keyStage
  split <;> simp [latch_spec, acquireStage_spec, fetchFailed_clean, hi]

theorem statusClean_failed (err : Text) : (StatusIn.failed err).clean = true ↔ leaks err = false := by
  simp [StatusIn.clean]

theorem statusClean_ok (desc : Text) (g : Option Nat) (s : String) (rules : Option Text) :
    (StatusIn.ok desc g s rules).clean = true ↔ leaks desc = false ∧ Clean (rulesEmit rules) := by
  cases rules <;> simp [StatusIn.clean, rulesEmit]

theorem poll_spec (st : St) (i : PollIn) (hc : i.status.clean = true) :
    Inv (poll fixed st i).1 ∧ Clean (poll fixed st i).2.1 := by
  unfold poll
  split
  · next err hs =>
    rw [hs, statusClean_failed] at hc
    simp [setStatus_spec, hc]
  · next desc guid state rules hs =>
    rw [hs, statusClean_ok] at hc
    generalize hr : setStatus st "status-ok" _ true = r1
    have h1 : Inv r1.1 ∧ Clean r1.2 := by simp [← hr, setStatus_spec, hc]
    have hk := keyStage_spec r1.1 guid i h1.1
    dsimp only
    cases needKey _ _ _
    · simp [finishPoll_spec, h1, hc]
    · cases (keyStage _ _ _ _).2.1 <;> simp [finishPoll_spec, hk, h1, hc]

theorem sign_clean (st : St) : Clean (sign fixed st) := by
  unfold sign
  split
  · simp
  · next k _ => cases k.hexOk <;> simp

theorem step_spec (st : St) (op : Op) (hi : Inv st) (hc : op.clean = true) :
    Inv (step fixed st op).1 ∧ Clean (step fixed st op).2.1 := by
  have hm : leaks st.statusMsg = false := hi
  cases op with
  | start => cases h : st.started <;> simp [step, h, setStatus_spec, startEmits, hi]
  | poll i => cases h : st.started <;> simp [step, h, poll_spec st i hc, hi]
  | statusTick => cases h : st.cur <;> simp [step, hi, hm, h]
  | restart => simp [step, inv_init]
  | _ => simp [step, sign_clean, hi, hm]

/-- **C12(a)** for every history of polls (any host answers, including error statuses, malformed key
bodies that contain the key, keys that are not hex), client requests, provisioning queries, status
ticks, the deadline and restarts: nothing written outside the key file contains the key value -/
theorem key_never_leaves_store (st : St) (ops : List Op) (hi : Inv st) (hc : ∀ op ∈ ops, op.clean = true) :
    Clean (run fixed st ops).1 := by
  induction ops generalizing st with
  | nil => exact Clean.nil
  | cons op rest ih =>
    have hs := step_spec st op hi (hc op (List.mem_cons_self ..))
    simp only [run]
    exact Clean.append hs.2 (ih _ hs.1 (fun o ho => hc o (List.mem_cons_of_mem _ ho)))

/-- the same, from process start, for the variant the source is in -/
theorem key_never_leaves_store_code (ops : List Op) (hc : ∀ op ∈ ops, op.clean = true) :
    Clean (run codeVariant St.init ops).1 := by
  rw [code_withholds]; exact key_never_leaves_store St.init ops inv_init hc

/-- what a sink receives is at most a prefix of the modelled text (event and status truncation) -/
theorem truncated_sinks_clean (e : Emit) (n : Nat) (h : leaks e.text = false) : leaks (e.text.take n) = false :=
  List.any_eq_false.2 fun x hx => List.any_eq_false.1 h x (List.mem_of_mem_take hx)

/-! ### the key file, and the order of file-system operations -/

/-- walk a file-system trace: `acl` = the key directory has been made mode 0700 -/
def restrictedBeforeFiles : Bool → List FsOp → Bool
  | _, [] => true
  | acl, .chmodKeyDir m :: r => if m = 0o700 then restrictedBeforeFiles true r else restrictedBeforeFiles acl r
  | acl, .createKeyFile _ :: r => acl && restrictedBeforeFiles acl r
  | acl, _ :: r => restrictedBeforeFiles acl r

@[simp] theorem rbf_true (l : List FsOp) : restrictedBeforeFiles true l = true := by
  induction l with
  | nil => rfl
  | cons op r ih => cases op <;> simp [restrictedBeforeFiles, ih]

theorem rbf_append (a : Bool) (l₁ l₂ : List FsOp) :
    restrictedBeforeFiles a (l₁ ++ l₂) =
      (restrictedBeforeFiles a l₁ && restrictedBeforeFiles (a || l₁.contains (.chmodKeyDir 0o700)) l₂) := by
  induction l₁ generalizing a with
  | nil => simp [restrictedBeforeFiles]
  | cons op r ih =>
    cases op with
    | chmodKeyDir m =>
      by_cases hm : m = 0o700
      · simp [restrictedBeforeFiles, ih, hm]
      · simp [restrictedBeforeFiles, ih, hm, Ne.symm hm]
    | _ => simp [restrictedBeforeFiles, ih, Bool.and_assoc]

@[simp] theorem setStatus_started (st : St) (tid : String) (t : Text) (b : Bool) :
    (setStatus st tid t b).1.started = st.started := by
  rw [setStatus_fst]

@[simp] theorem finishPoll_started (st : St) (s : String) : (finishPoll st s).1.started = st.started := by
  -- with the projections moved into the `if`s every branch reads `st.started`
  simp [finishPoll, apply_ite Prod.fst, apply_ite St.started]

@[simp] theorem latch_started (st : St) (k : KeyVal) (tid : String) (t : Text) :
    (latch st k tid t).1.started = st.started := by
  simp [latch]

@[simp] theorem attestStage_started (v : Variant) (st : St) (k : KeyVal) (a : AttestIn) :
    (attestStage v st k a).1.started = st.started := by
  unfold attestStage
  split
  · rfl
  · split <;> simp

@[simp] theorem acquireStage_started (v : Variant) (st : St) (acq : AcquireIn) (so : Bool) (att : AttestIn) :
    (acquireStage v st acq so att).1.started = st.started := by
  unfold acquireStage
  split
  · split <;> simp
  · simp

@[simp] theorem keyStage_started (v : Variant) (st : St) (g : Option Nat) (i : PollIn) :
    (keyStage v st g i).1.started = st.started := by
  unfold keyStage
  split <;> simp

theorem poll_started (v : Variant) (st : St) (i : PollIn) : (poll v st i).1.started = st.started := by
  unfold poll
  split <;> simp [apply_ite Prod.fst, apply_ite St.started]

/-- one step: if the directory is restricted whenever the task has started, the step's file-system
operations respect the order and the relation is kept -/
theorem step_fs (v : Variant) (st : St) (op : Op) (acl : Bool) (h : st.started = true → acl = true) (hm : Gpa.Facts.keyDirMode = 0o700) :
    restrictedBeforeFiles acl (step v st op).2.2 = true ∧
    ((step v st op).1.started = true →
      (acl || (step v st op).2.2.contains (.chmodKeyDir 0o700)) = true) := by
  by_cases hs : st.started = true
  · simp [h hs]  -- the flag is set, and a set flag accepts every trace (`rbf_true`)
  · cases op <;> simp [step, St.init, restrictedBeforeFiles, hs, hm]

theorem run_fs (v : Variant) (st : St) (ops : List Op) (acl : Bool) (h : st.started = true → acl = true)
    (hm : Gpa.Facts.keyDirMode = 0o700) : restrictedBeforeFiles acl (run v st ops).2 = true := by
  induction ops generalizing st acl with
  | nil => rfl
  | cons op rest ih =>
    have hs := step_fs v st op acl h hm
    simp only [run, rbf_append, hs.1, Bool.true_and]
    exact ih _ _ hs.2

/-- **C12(b)** in every history from process start, the key directory is made mode 0700 before the
first key file is created in it (and stays so across restarts) -/
theorem acl_before_first_key_file (v : Variant) (ops : List Op) :
    restrictedBeforeFiles false (run v St.init ops).2 = true :=
  run_fs v St.init ops false (fun h => nomatch h) key_dir_mode

/-- what `restrictedBeforeFiles` means -/
theorem restricted_meaning (l pre post : List FsOp) (k : Nat) (h : restrictedBeforeFiles false l = true)
    (hl : l = pre ++ .createKeyFile k :: post) : (.chmodKeyDir 0o700) ∈ pre := by
  subst hl
  simp [rbf_append, restrictedBeforeFiles] at h
  exact h.2.1

/-! ### the two echoing error texts are real leaks when not withheld (negative witnesses);
non-vacuity of the main theorem -/

def k1 : KeyVal := { id := 1, hexOk := true }
def kBad : KeyVal := { id := 2, hexOk := false }
def stOk : StatusIn := .ok [.lit "keyGuid: None, secureChannelState: wireserver"] none "wireserver" none

/-- a key response that does not parse but contains the key; then a local client asks /provision -/
def histBody : List Op :=
  [.start, .poll { status := stOk, acquire := .malformed [.lit "{\"key\": \"", .secret 1, .lit "\"}"], storeOk := true, attest := .ok },
   .provisionQuery, .statusTick]

/-- a key that is not hex is stored, attestation fails locally; later it is found locally and used for signing -/
def histHex : List Op :=
  [.start, .poll { status := stOk, acquire := .key kBad, storeOk := true, attest := .ok },
   .poll { status := .ok [.lit "keyGuid: g2"] (some 2) "wireserver" none, acquire := .sendFail, storeOk := true, attest := .ok },
   .request]

def leaksTo (es : List Emit) (s : Sink) : Bool := es.any fun e => e.sink = s && leaks e.text

example : leaksTo (run { withholdHexKey := true, withholdBody := false } St.init histBody).1 .clientResp = true := by decide +kernel
example : leaksTo (run { withholdHexKey := true, withholdBody := false } St.init histBody).1 .statusJson = true := by decide +kernel
example : leaksTo (run { withholdHexKey := true, withholdBody := false } St.init histBody).1 .event = true := by decide +kernel
example : leaksTo (run { withholdHexKey := false, withholdBody := true } St.init histHex).1 .agentLog = true := by decide +kernel
example : leaksTo (run { withholdHexKey := false, withholdBody := true } St.init histHex).1 .connLog = true := by decide +kernel
example : ([Sink.agentLog, .connLog, .console, .serial, .event, .statusMsg, .statusJson, .statusTag, .clientResp, .rulesDump,
    .upstreamAuth, .hostReq].all fun s => !leaksTo (run fixed St.init (histBody ++ histHex)).1 s) = true := by decide +kernel
-- the key does reach the key file, and a latched key signs
example : leaksTo (run fixed St.init histHex).1 .keyFile = true := by decide +kernel
example : (run fixed St.init [.start, .poll { status := stOk, acquire := .key k1, storeOk := true, attest := .ok }, .request]).1.any
    (fun e => e.sink = .upstreamAuth && e.text.contains (.mac 1)) = true := by decide +kernel
example : (run fixed St.init histHex).2 = [.mkdirKeyDir, .chownKeyDir, .chmodKeyDir 448, .createKeyFile 2] := by decide +kernel

end Gpa.Props.C12
