/-
C11  Enforce blocks, audit forwards and records; every denial is recorded once.
-/
import Gpa.Generated.Facts
import Gpa.Lemmas.Pipeline
import Gpa.Lemmas.Rbac
namespace Gpa.Props.C11
open Gpa.Pipeline Gpa.Rbac Gpa.Text Gpa.Url Gpa.Headers Gpa.Canon

variable (mac : Str → List UInt8 → Str)

/-- the rules deny the request (the decision function of C02 says no) -/
def denies (it : Item) (u : Uri) (c : Claims) : Prop := isAllowed (compute it) u c = false

/-- endpoints whose rules are consulted for this caller -/
def consulted (ep : Endpoint) (caller : Caller) : Prop :=
  ep = .imds ∨ ((ep = .wireServer ∨ ep = .gaPlugin) ∧ caller.elevated = true)

theorem authorize_consulted (ep : Endpoint) (caller : Caller) (u : Uri) (rules : Option Item)
    (h : consulted ep caller) : authorize ep caller u rules = rulesDecision rules u caller.claims := by
  rcases h with h | ⟨h | h, he⟩ <;> subst h <;> simp [authorize, *]

theorem rulesDecision_denies (it : Item) (u : Uri) (c : Claims) (h : denies it u c) :
    rulesDecision (some it) u c = if parseMode it.mode = .audit then .okWithAudit else .forbidden := by
  simp only [rulesDecision, show isAllowed (compute it) u c = false from h, compute_mode, Bool.false_eq_true, if_false]

/-- **C11(a)** enforce mode + denial: 403, nothing relayed, exactly one failed-authorization record -/
theorem enforce_denial (env : Env) (conn : Conn) (r : Req) (ip : Str) (port : Nat) (caller : Caller) (it : Item)
    (hl : ¬ (r.declared.getD 0) > limitFor r) (ht : containsSub r.uri.path ['.', '.'] = false)
    (hp : r.uri.toStr ≠ provisionUrl)
    (hd : conn.dest = some (ip, port)) (hc : conn.caller = some caller)
    (hcons : consulted (endpointOf ip port) caller)
    (hr : rulesFor (endpointOf ip port) env = .ok (some it))
    (hmode : parseMode it.mode = .enforce) (hdeny : denies it r.uri caller.claims) :
    handle mac env conn r = ⟨.respond 403, 1⟩ := by
  have hf : authorize (endpointOf ip port) caller r.uri (some it) = .forbidden := by
    rw [authorize_consulted _ _ _ _ hcons, rulesDecision_denies it _ _ hdeny, hmode]; rfl
  rw [handle_attributed mac env conn r ip port caller hl ht hp hd hc, authStage_forbidden mac env r ip port caller _ hr hf]

/-- **C11(b)** audit mode + denial: the request is relayed exactly as an allowed one would be
(`forwardStage` does not look at the rules at all) and exactly one record is added -/
theorem audit_denial (env : Env) (conn : Conn) (r : Req) (ip : Str) (port : Nat) (caller : Caller) (it : Item)
    (hl : ¬ (r.declared.getD 0) > limitFor r) (ht : containsSub r.uri.path ['.', '.'] = false)
    (hp : r.uri.toStr ≠ provisionUrl)
    (hd : conn.dest = some (ip, port)) (hc : conn.caller = some caller)
    (hcons : consulted (endpointOf ip port) caller)
    (hr : rulesFor (endpointOf ip port) env = .ok (some it))
    (hmode : parseMode it.mode = .audit) (hdeny : denies it r.uri caller.claims) :
    handle mac env conn r = ⟨forwardStage mac env caller r, 1⟩ := by
  have ha : authorize (endpointOf ip port) caller r.uri (some it) = .okWithAudit := by
    rw [authorize_consulted _ _ _ _ hcons, rulesDecision_denies it _ _ hdeny, hmode]; rfl
  rw [handle_attributed mac env conn r ip port caller hl ht hp hd hc,
    authStage_pass mac env r ip port caller _ hr (by rw [ha]; decide), ha]
  rfl

/-- an allowed request (any mode) is relayed by the same `forwardStage`, with no record -/
theorem allowed_request (env : Env) (conn : Conn) (r : Req) (ip : Str) (port : Nat) (caller : Caller) (rules)
    (hl : ¬ (r.declared.getD 0) > limitFor r) (ht : containsSub r.uri.path ['.', '.'] = false)
    (hp : r.uri.toStr ≠ provisionUrl)
    (hd : conn.dest = some (ip, port)) (hc : conn.caller = some caller)
    (hr : rulesFor (endpointOf ip port) env = .ok rules)
    (ha : authorize (endpointOf ip port) caller r.uri rules = .ok) :
    handle mac env conn r = ⟨forwardStage mac env caller r, 0⟩ := by
  rw [handle_attributed mac env conn r ip port caller hl ht hp hd hc,
    authStage_pass mac env r ip port caller _ hr (by rw [ha]; decide), ha]
  rfl

/-- `forwardStage` reads the environment only through the key and the clock: what is relayed for
an audited denial is what would be relayed for an allowed request -/
theorem forwardStage_ignores_rules (env env' : Env) (caller : Caller) (r : Req)
    (hk : env'.key = env.key) (hn : env'.now = env.now) :
    forwardStage mac env' caller r = forwardStage mac env caller r := by
  unfold forwardStage signStage
  rw [hk, hn]

/-- **C11(c)** disabled mode: the rules are not consulted — whatever the document contains, the
decision is Ok and no record is added -/
theorem disabled_ignores_rules (it : Item) (u : Uri) (c : Claims) (h : parseMode it.mode = .disabled) :
    rulesDecision (some it) u c = .ok := by
  have hm : (compute it).mode = .disabled := by rw [compute_mode]; exact h
  simp [rulesDecision, isAllowed, hm]

/-! ### the summary: every denial is counted exactly once, under its caller's key -/

section
variable {κ : Type} [DecidableEq κ]

/-- `failed_authenticate_summary`: insert with count 1 if the key is vacant, else count += 1 -/
def addOne (m : List (κ × Nat)) (k : κ) : List (κ × Nat) :=
  match m with
  | [] => [(k, 1)]
  | (k', n) :: rest => if k' = k then (k', n + 1) :: rest else (k', n) :: addOne rest k

def countOf (m : List (κ × Nat)) (k : κ) : Nat :=
  match m with
  | [] => 0
  | (k', n) :: rest => if k' = k then n else countOf rest k

theorem countOf_addOne (m : List (κ × Nat)) (k q : κ) :
    countOf (addOne m k) q = countOf m q + (if k = q then 1 else 0) := by
  -- the arms of `addOne`: empty summary; the key is at the head; it is further down
  fun_induction addOne m k with
  | case1 => simp [countOf]
  | case2 n rest => by_cases h : k = q <;> simp [countOf, h]
  | case3 k' n rest hne ih =>
    by_cases h : k' = q
    · simp [countOf, h, show k ≠ q from fun e => hne (h.trans e.symm)]
    · simp [countOf, h, ih]

theorem countOf_addAll (m : List (κ × Nat)) (ks : List κ) (q : κ) :
    countOf (ks.foldl addOne m) q = countOf m q + ks.count q := by
  induction ks generalizing m with
  | nil => simp
  | cons k ks ih =>
    simp only [List.foldl_cons, ih, countOf_addOne, List.count_cons]
    by_cases h : k = q <;> simp [h] <;> omega

/-- **C11(d)** after any history, the count published under key `q` is the number of denials with
key `q` in that history … -/
theorem counts (ks : List κ) (q : κ) : countOf (ks.foldl addOne []) q = ks.count q := by
  simpa [countOf] using countOf_addAll [] ks q

/-- … and does not depend on the order (hence on the interleaving of concurrent connections, the
status actor handling one addition at a time) -/
theorem counts_perm (ks ks' : List κ) (h : ks.Perm ks') (q : κ) :
    countOf (ks.foldl addOne []) q = countOf (ks'.foldl addOne []) q := by
  rw [counts, counts, h.count_eq]

/-! ### the status task: what is counted is published until it is cleared, and it is cleared a day after the task started

`loop_status` publishes the summary in every iteration and clears it when `start_time.elapsed() >= map_clear_duration`,
`start_time` being the moment the task started or last cleared (generated facts: the duration, the test that
guards the clearing, the timer being restarted there). Denials can be recorded before the task runs its first iteration (the task is started
only once provisioning has finished or timed out). -/
inductive TaskEv (κ : Type) where
  /-- a denial recorded at the status actor -/
  | deny (k : κ)
  /-- one iteration of the status loop, `t` ms after the task started (monotonic clock) -/
  | tick (t : Nat)

structure TaskSt (κ : Type) where
  summary : List (κ × Nat)
  /-- `start_time`, in ms after the task started -/
  since : Nat
  /-- what every iteration wrote to status.json, latest first -/
  published : List (List (κ × Nat))

def clearAfterMs : Nat := Gpa.Facts.statusClearSeconds * 1000

def taskStep (s : TaskSt κ) : TaskEv κ → TaskSt κ
  | .deny k => { s with summary := addOne s.summary k }
  | .tick t =>
    if t - s.since ≥ clearAfterMs then { summary := [], since := t, published := s.summary :: s.published }
    else { s with published := s.summary :: s.published }

def denialsOf : List (TaskEv κ) → List κ
  | [] => []
  | .deny k :: t => k :: denialsOf t
  | .tick _ :: t => denialsOf t

/-- every iteration in the history comes less than a day after the task started -/
def Early : List (TaskEv κ) → Prop
  | [] => True
  | .deny _ :: t => Early t
  | .tick x :: t => x < clearAfterMs ∧ Early t

theorem early_history (evs : List (TaskEv κ)) (s : TaskSt κ) (h0 : s.since = 0) (h : Early evs) :
    (evs.foldl taskStep s).summary = (denialsOf evs).foldl addOne s.summary ∧ (evs.foldl taskStep s).since = 0 := by
  induction evs generalizing s with
  | nil => exact ⟨rfl, h0⟩
  | cons e t ih =>
    cases e with
    | deny k => exact ih _ h0 h
    | tick x =>
      obtain ⟨hx, ht⟩ := h
      have hn : ¬ (x - s.since ≥ clearAfterMs) := by rw [h0]; omega
      simp only [List.foldl_cons, taskStep, if_neg hn, denialsOf]
      exact ih _ h0 ht

/-- **C11 (every denial recorded, status task)** denials recorded before the task started (`before`) and while it
runs are all in what an iteration publishes, as long as less than a day has passed since the task started: the count
published under `q` is the number of denials with key `q` so far -/
theorem published_counts_every_denial_so_far (before : List κ) (evs : List (TaskEv κ)) (t : Nat) (q : κ)
    (h : Early evs) :
    let s0 : TaskSt κ := { summary := before.foldl addOne [], since := 0, published := [] }
    ((evs ++ [TaskEv.tick t]).foldl taskStep s0).published.head?.map (countOf · q) = some ((before ++ denialsOf evs).count q) := by
  intro s0
  obtain ⟨hs, h0⟩ := early_history evs s0 rfl h
  have e : ∀ s : TaskSt κ, (taskStep s (.tick t)).published.head? = some s.summary := by
    intro s; simp only [taskStep]; split <;> rfl
  rw [List.foldl_append, List.foldl_cons, List.foldl_nil, e, hs]
  simp only [Option.map_some, s0]
  rw [← List.foldl_append, counts]

/-- the summary is cleared only by an iteration that comes a full day after the task started or last cleared -/
theorem cleared_only_after_a_day (s : TaskSt κ) (t : Nat) (h : (taskStep s (.tick t)).since ≠ s.since) :
    t - s.since ≥ clearAfterMs := by
  by_cases hc : t - s.since ≥ clearAfterMs
  · exact hc
  · simp [taskStep, hc] at h

theorem status_task_facts :
    Gpa.Facts.statusClearSeconds = 86400 ∧ Gpa.Facts.statusClearTest = 1 ∧ Gpa.Facts.statusClearResetsTimer = 1 := by decide

end

/-- negative witness: a clear that fires at the first iteration (a timer whose first tick is immediate) drops the
denials recorded before the task started; the source's rule keeps them -/
theorem clear_at_first_iteration_loses_denials :
    let s0 : TaskSt Nat := { summary := [7, 7, 9].foldl addOne [], since := 0, published := [] }
    let eager (s : TaskSt Nat) (t : Nat) : TaskSt Nat := { summary := [], since := t, published := s.summary :: s.published }
    ((taskStep (eager s0 0) (.tick 60)).published.head?.map (countOf · 7) = some 0) ∧
    ((taskStep (taskStep s0 (.tick 0)) (.tick 60)).published.head?.map (countOf · 7) = some 2) := by
  decide +kernel

/-- the denial keys of a history of requests: one key per request whose handling produced a
failed-authorization record -/
def denialKeys {κ : Type} (key : Conn → κ) (env : Env) (hist : List (Conn × Req)) : List κ :=
  (hist.filter fun cr => (handle mac env cr.1 cr.2).failedAuth = 1).map fun cr => key cr.1

/-- every request adds at most one record -/
theorem failedAuth_le_one (env : Env) (conn : Conn) (r : Req) : (handle mac env conn r).failedAuth ≤ 1 := by
  rw [handle_eq_gate]
  cases hg : gate env conn r with
  | inl res => exact (gate_local hg).1
  | inr p => exact (gate_pass (c := p.1) (f := p.2) hg).1

/-! non-vacuity -/
example : countOf ([1, 2, 1, 1].foldl addOne ([] : List (Nat × Nat))) 1 = 3 := by decide +kernel

end Gpa.Props.C11
