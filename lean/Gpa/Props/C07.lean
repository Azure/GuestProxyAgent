/-
C07  Attribution is single-use: a connection never inherits another's identity.
-/
import Gpa.Model.Attribution
import Gpa.Props.C01
namespace Gpa.Props.C07
open Gpa.Attribution Gpa.Pipeline Gpa.Text

variable (mac : Str → List UInt8 → Str)

theorem lookup_remove (m : AuditMap) (p q : Nat) : lookup (remove m p) q = if p = q then none else lookup m q := by
  induction m with
  | nil => simp [remove, lookup]
  | cons hd tl ih =>
    unfold remove at ih ⊢
    by_cases h : hd.1 = p <;> by_cases hq : p = q <;> simp_all [lookup, List.filter_cons]

theorem lookup_record (m : AuditMap) (p q : Nat) (r : Record) :
    lookup (record m p r) q = if p = q then some r else lookup m q := by
  rw [record, lookup, lookup_remove]; split <;> rfl

/-- **C07(a)** the context of a connection is the record the kernel wrote for *its* source port
(present at accept time), else unattributed -/
theorem context_is_own_record (m : AuditMap) (p : Nat) :
    (accept m p).2 = match lookup m p with
      | some r => { caller := some r.caller, dest := some r.dest }
      | none => Conn.unattributed := by
  unfold accept; split <;> simp_all

/-- **C07(b)** the record is consumed by the accept -/
theorem record_consumed (m : AuditMap) (p : Nat) : lookup (accept m p).1 p = none := by
  unfold accept
  cases h : lookup m p with
  | none => simpa using h
  | some r => simp [lookup_remove]

/-- accepting one port leaves every other port's record alone -/
theorem accept_other_ports (m : AuditMap) (p q : Nat) (h : q ≠ p) : lookup (accept m p).1 q = lookup m q := by
  unfold accept
  cases hl : lookup m p with
  | none => rfl
  | some r => simp [lookup_remove, h.symm]

/-- **C07(c)** immediate source-port reuse without a fresh kernel record: the second connection is
unattributed — whatever the first one was -/
theorem reuse_without_record_unattributed (m : AuditMap) (p : Nat) :
    (accept (accept m p).1 p).2 = Conn.unattributed := by
  rw [context_is_own_record, record_consumed]

/-- … and therefore refused: none of its requests is ever relayed (C01) -/
theorem reuse_without_record_refused (m : AuditMap) (p : Nat) (env : Env) (r : Req) :
    Gpa.Props.C01.isForward (handle mac env (accept (accept m p).1 p).2 r).outcome = false := by
  rw [reuse_without_record_unattributed]
  exact Gpa.Props.C01.direct_connection_never_forwarded mac env r

/-- a fresh kernel record for the reused port re-attributes the new connection to the *new* record -/
theorem reuse_with_fresh_record (m : AuditMap) (p : Nat) (r : Record) :
    (accept (record (accept m p).1 p r) p).2 = { caller := some r.caller, dest := some r.dest } := by
  rw [context_is_own_record, lookup_record, if_pos rfl]

/-! ### requests use their own connection's context, under any interleaving -/

theorem ctxOf_step_other (env : Env) (s : Server) (op : Op) (id : Nat)
    (h : ∀ p, op ≠ .accept id p) (hc : op ≠ .close id) :
    ctxOf (step mac env s op).1 id = ctxOf s id := by
  cases op with
  | kernelRecord p r => rfl
  | hostCloses i => rfl
  | request i req => simp only [step]; split <;> rfl
  | close i =>
    have hi : i ≠ id := fun e => hc (by rw [e])
    simp only [step, ctxOf]
    rw [Gpa.find?_filter_of_imp (Gpa.key_ne_of_eq hi)]
  | accept i p =>
    have hi : i ≠ id := fun e => h p (by rw [e])
    simp only [step, ctxOf, List.find?_cons, hi, decide_false]
    rw [Gpa.find?_filter_of_imp (Gpa.key_ne_of_eq hi)]

/-- whether the host has closed a connection's upstream changes only through that connection's own events -/
theorem hostClosed_step_other (env : Env) (s : Server) (op : Op) (id : Nat)
    (h : ∀ p, op ≠ .accept id p) (hc : op ≠ .close id) (hh : op ≠ .hostCloses id) :
    (step mac env s op).1.hostClosed.contains id = s.hostClosed.contains id := by
  cases op with
  | kernelRecord p r => rfl
  | request i req => simp only [step]; split <;> rfl
  | hostCloses i =>
    have hi : id ≠ i := fun e => hh (by rw [e])
    simp [step, hi]
  | close i =>
    have hi : id ≠ i := fun e => hc (by rw [e])
    simp [step, hi]
  | accept i p =>
    have hi : id ≠ i := fun e => h p (by rw [e])
    simp [step, hi]

theorem run_other (env : Env) (id : Nat) (ops : List Op) (s : Server)
    (h : ∀ op ∈ ops, (∀ p, op ≠ .accept id p) ∧ op ≠ .close id ∧ op ≠ .hostCloses id) :
    ctxOf (run mac env s ops).1 id = ctxOf s id ∧ (run mac env s ops).1.hostClosed.contains id = s.hostClosed.contains id := by
  induction ops generalizing s with
  | nil => exact ⟨rfl, rfl⟩
  | cons op ops ih =>
    have hop := h op List.mem_cons_self
    have ih' := ih (step mac env s op).1 fun o ho => h o (List.mem_cons_of_mem _ ho)
    exact ⟨ih'.1.trans (ctxOf_step_other mac env s op id hop.1 hop.2.1),
           ih'.2.trans (hostClosed_step_other mac env s op id hop.1 hop.2.1 hop.2.2)⟩

/-- **C07(d)** a request on connection `id` is evaluated with the context fixed at `id`'s accept:
for any events in between that neither re-accept nor close `id` nor end its upstream connection (other connections' accepts,
requests, closes, host closes, kernel records — in any order), the result is `handle` with that very context. -/
theorem requests_use_own_context (env : Env) (s : Server) (id port : Nat) (between : List Op) (req : Req)
    (hb : ∀ op ∈ between, (∀ p, op ≠ .accept id p) ∧ op ≠ .close id ∧ op ≠ .hostCloses id) :
    let s1 := (step mac env s (.accept id port)).1
    let s2 := (run mac env s1 between).1
    (step mac env s2 (.request id req)).2 = some (handle mac env (accept s.audit port).2 req) := by
  intro s1 s2
  have h1 : ctxOf s1 id = some (accept s.audit port).2 := by
    simp [s1, step, ctxOf]
  have h1c : s1.hostClosed.contains id = false := by
    simp [s1, step]
  obtain ⟨hc2, hh2⟩ := run_other mac env id between s1 hb
  simp only [step, s2, hc2, h1, hh2, h1c, Bool.false_eq_true, if_false]

/-! ### after the host has closed a connection's upstream connection -/

/-- a request on a connection whose upstream the host has closed gets what it would have got, except that nothing is relayed -/
theorem request_on_closed_upstream (env : Env) (s : Server) (id : Nat) (c : Conn) (req : Req)
    (hc : ctxOf s id = some c) (hh : s.hostClosed.contains id = true) :
    (step mac env s (.request id req)).2 = some (afterHostClose (handle mac env c req)) := by
  simp only [step, hc, hh, if_true]

theorem afterHostClose_never_forwards (r : Result) (u : UpReq) : (afterHostClose r).outcome ≠ .forward u := by
  unfold afterHostClose
  cases h : r.outcome with
  | forward v => intro e; cases e
  | respond st => rw [h]; intro e; cases e
  | provision => rw [h]; intro e; cases e
  | panic => rw [h]; intro e; cases e

/-- refusals (and their records) are what they would have been with a live upstream -/
theorem afterHostClose_keeps_refusals (r : Result) (h : ∀ u, r.outcome ≠ .forward u) : afterHostClose r = r := by
  unfold afterHostClose
  cases hr : r.outcome with
  | forward v => exact absurd hr (h v)
  | respond st => rfl
  | provision => rfl
  | panic => rfl

theorem afterHostClose_failedAuth (r : Result) : (afterHostClose r).failedAuth = r.failedAuth := by
  unfold afterHostClose
  cases r.outcome <;> rfl

/-! ### histories in which the environment (rules in force, latched key, clock) changes between events

Nothing a connection has seen before — earlier requests, the rules or the key in force when it was accepted or when it was last
used — takes part in a later verdict: a request is judged with the connection's own context and the environment in force when
that request arrives. (A per-connection cache of a decision, of the rules or of the key would contradict this.) -/

def stepE (s : Server) (e : Env × Op) : Server × Option Result := step mac e.1 s e.2

def runE (s : Server) : List (Env × Op) → Server × List (Option Result)
  | [] => (s, [])
  | e :: es =>
    let r := stepE mac s e
    let rs := runE r.1 es
    (rs.1, r.2 :: rs.2)

theorem step_state_env_free (env env' : Env) (s : Server) (op : Op) : (step mac env s op).1 = (step mac env' s op).1 := by
  cases op with
  | kernelRecord p r => rfl
  | accept id p => rfl
  | close id => rfl
  | hostCloses id => rfl
  | request id req =>
    simp only [step]
    cases ctxOf s id <;> rfl

theorem runE_state (env : Env) (hs : List (Env × Op)) (s : Server) :
    (runE mac s hs).1 = (run mac env s (hs.map Prod.snd)).1 := by
  induction hs generalizing s with
  | nil => rfl
  | cons e es ih => simp only [runE, stepE, List.map_cons, run, ih, step_state_env_free mac e.1 env]

/-- two histories with the same events reach the same state, whatever environments were in force along the way -/
theorem runE_state_env_free (hs hs' : List (Env × Op)) (s : Server) (hops : hs.map Prod.snd = hs'.map Prod.snd) :
    (runE mac s hs).1 = (runE mac s hs').1 := by
  rw [runE_state mac ⟨.err, .err, .err, none, []⟩, runE_state mac ⟨.err, .err, .err, none, []⟩, hops]

theorem runE_answer (hs : List (Env × Op)) (s : Server) (i : Nat) :
    (runE mac s hs).2[i]? = (hs[i]?).map fun e => (stepE mac (runE mac s (hs.take i)).1 e).2 := by
  induction hs generalizing s i with
  | nil => simp [runE]
  | cons e es ih => cases i <;> simp [runE, ih]

/-- **C07/C01/C04 (no memory of earlier environments)** the answer to the `i`-th event of a history is the same in any other
history with the same events whose environment agrees at position `i` — however the rules, the key or the clock differed
before (or after) it -/
theorem answer_depends_on_environment_in_force (hs hs' : List (Env × Op)) (s : Server)
    (hops : hs.map Prod.snd = hs'.map Prod.snd) (i : Nat) (hi : (hs[i]?).map Prod.fst = (hs'[i]?).map Prod.fst) :
    (runE mac s hs).2[i]? = (runE mac s hs').2[i]? := by
  have hst := runE_state_env_free mac (hs.take i) (hs'.take i) s (by rw [List.map_take, List.map_take, hops])
  have hev : hs[i]? = hs'[i]? := by
    have h2 : (hs[i]?).map Prod.snd = (hs'[i]?).map Prod.snd := by rw [← List.getElem?_map, ← List.getElem?_map, hops]
    cases h : hs[i]? <;> cases h' : hs'[i]? <;> simp_all [Prod.ext_iff]
  rw [runE_answer, runE_answer, hst, hev]

/-- in particular: what a kept-alive connection is answered after the rules or the key were replaced is what a history that had
the new rules and key all along would answer -/
theorem kept_connection_sees_current_environment (old new : Env) (s : Server) (id port : Nat) (r1 r2 : Req) :
    (runE mac s [(old, .accept id port), (old, .request id r1), (new, .request id r2)]).2[2]? =
    (runE mac s [(new, .accept id port), (new, .request id r1), (new, .request id r2)]).2[2]? :=
  answer_depends_on_environment_in_force mac
    [(old, .accept id port), (old, .request id r1), (new, .request id r2)]
    [(new, .accept id port), (new, .request id r1), (new, .request id r2)] s rfl 2 rfl

end Gpa.Props.C07
